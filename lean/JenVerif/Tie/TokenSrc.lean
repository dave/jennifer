import JenVerif.Tie.RenderSrc
/-
  Tie 1b: `token.render` (jen/tokens.go).  The translated function (`Gen.Src.token_render`: a switch over the token
  type and, for literal tokens, a type switch over the dynamic content with fmt verbs) equals the model's `Code.renderS`
  on every token of the model (`.tok k s` / `.lit v`), for every configuration, File state, accumulated output and
  context.  In particular the `panic` branch (unsupported literal type) is never taken.
-/
namespace Tie
open Code

theorem token_render_congr (cfg : Cfg) (r r' : Go.Rec) (h : r.register = r'.register)
    (typ : Go.TokTyp) (val : Go.Dyn) (f : FileS) (w : Str) :
    Gen.Src.token_render cfg r typ val f w = Gen.Src.token_render cfg r' typ val f w := by
  unfold Gen.Src.token_render
  rw [h]

/-- which arm of the type switch a sized integer takes: a finite table (ten type names against the
    sixteen of the first three arms) -/
theorem sizedArm (ty : NumTy) :
    ["bool", "string", "int", "complex128"].contains
      (String.ofList (ty.name.map fun b => Char.ofNat b.toNat)) = false ∧
    ["float64"].contains (String.ofList (ty.name.map fun b => Char.ofNat b.toNat)) = false ∧
    ["float32", "int8", "int16", "int32", "int64", "uint", "uint8", "uint16",
      "uint32", "uint64", "uintptr"].contains (String.ofList (ty.name.map fun b => Char.ofNat b.toNat)) = true := by
  cases ty <;> decide

theorem token_render_lit (cfg : Cfg) (rec : Go.Rec) (v : LitVal) (f : FileS) (w : Str) :
    Gen.Src.token_render cfg rec (Go.tokTyp (.lit v)) (Go.dynOf (.lit v)) f w
      = some (w ++ Lit.render cfg.isPrint v, f) := by
  cases v with
  | sized ty v =>
    simp only [Gen.Src.token_render, Go.tokTyp, Go.dynOf, Go.dynIs, Go.dynType, sizedArm ty]
    rfl
  | f64 t =>
    simp only [Gen.Src.token_render, Go.tokTyp, Go.dynOf, Go.sharpV, Lit.render, Lit.floatFix,
      Go.hasSub_single]
    have h1 : Go.dynIs (.lit (.f64 t)) ["bool", "string", "int", "complex128"] = false := rfl
    have h2 : Go.dynIs (.lit (.f64 t)) ["float64"] = true := rfl
    simp only [h1, h2, beq_self_eq_true, if_true, Bool.false_eq_true, if_false]
    split <;> rfl
  | f32 t =>
    simp [Gen.Src.token_render, Go.tokTyp, Go.dynOf, Go.dynIs, Go.dynType, Go.typeName, Go.sharpV,
      Lit.render]
  | c64 re im =>
    simp [Gen.Src.token_render, Go.tokTyp, Go.dynOf, Go.dynIs, Go.dynType, Go.typeName, Go.sharpV,
      Lit.render]
  | bool b => cases b <;> rfl
  | _ => rfl

theorem token_render_text (s : Str) (f : FileS) (w : Str) :
    (if (s == b!"default") = true then some (w ++ s ++ b!":", f) else some (w ++ s, f))
      = some (w ++ tokText s, f) := by
  unfold tokText
  split <;> simp

/-- the translated `token.render` is the model's renderer on every token (never an error) -/
theorem token_render_eq (cfg : Cfg) (c : Code) (hc : (∃ k s, c = .tok k s) ∨ (∃ v, c = .lit v))
    (f : FileS) (w : Str) (prev : Option Code) :
    Gen.Src.token_render cfg (modelRec cfg) (Go.tokTyp c) (Go.dynOf c) f w
      = some (w ++ (Code.renderS cfg f prev c).1, (Code.renderS cfg f prev c).2) := by
  rcases hc with ⟨k, s, rfl⟩ | ⟨v, rfl⟩
  · -- on a concrete token kind the switch evaluates: what is left is the model's clause
    cases k with
    | pkg => rfl
    | ident => rfl
    | null => exact congrArg (fun x => some (x, f)) (List.append_nil w).symm
    | kw => exact token_render_text s f w
    | op => exact token_render_text s f w
    | delim => exact token_render_text s f w
    | layout => exact token_render_text s f w
  · exact token_render_lit cfg _ v f w

/-- … with any recursion parameter whose `register` is the model's, in the form the other render
    methods have -/
theorem token_render_agrees (cfg : Cfg) {r : Go.Rec} (hr : r.register = Registry.register cfg) (c : Code)
    (hc : (∃ k s, c = .tok k s) ∨ (∃ v, c = .lit v)) (f : FileS) (w : Str) (prev : Option Code) :
    Gen.Src.token_render cfg r (Go.tokTyp c) (Go.dynOf c) f w = (modelRec cfg).render f w prev c := by
  rw [token_render_congr cfg r (modelRec cfg) hr, token_render_eq cfg c hc f w prev]
  rcases hc with ⟨k, s, rfl⟩ | ⟨v, rfl⟩ <;> simp [modelRec, misuse]

/-- the hypothesis is satisfiable, and the result is what jennifer prints -/
example : Gen.Src.token_render RegistryInv.cfg0 (modelRec RegistryInv.cfg0)
    (Go.tokTyp (.lit (.sized .uint8 7))) (Go.dynOf (.lit (.sized .uint8 7))) RegistryInv.f0 b!"x := "
      = some (b!"x := uint8(0x7)", RegistryInv.f0) := by
  rw [token_render_eq _ _ (Or.inr ⟨_, rfl⟩) _ _ none]
  rfl

#print axioms Tie.token_render_eq

end Tie
