import JenVerif.Tie.NullSrc
import JenVerif.Lemmas.Refine
/-
  Tie 1b: the render methods of Statement and Group (jen/statement.go, jen/group.go).
  `Gen.Src.Statement_render`, `Group_renderItems`, `Group_render` are translations of the Go methods; their dynamic
  calls (`c.isNull(f)`, `c.render(f, w, ctx)`, `f.register(path)`) go to the parameter `rec : Go.Rec`.  For EVERY `rec`
  that is the model on the items of the node (`Agrees`) each translated method computes what the model says about that
  node (`…_agrees`); with the model itself as `rec` (`modelRec`) these are the `…_eq` theorems: the model's renderer
  and misuse predicate are a fixed point of the code's equations, node by node (no induction over the tree here, only
  over the item list of the one node).
  Each translated loop is restated (`stmtStep`, `itemStep`; equal to the generated text by `rfl`, so insensitive to
  bound-variable names) and its fold related to `renderStmtS` / `renderItemsS` and `misuseList` / `misuseItems` by
  induction on the item list.  `renderS` and `register` move along `Refine.Ext` on `Good` states, where the null-path
  test is the same function (`Ext.np_eq`): every test of a later state is rewritten to the start state.
-/
namespace Tie
open Code Refine

/-- the model, in the shape of the recursion parameter of the translated render methods -/
def modelRec (cfg : Cfg) : Go.Rec where
  null := fun f c => Code.isNull f.np c
  render := fun f w prev c =>
    if Code.misuse f.np c then none
    else some (w ++ (Code.renderS cfg f prev c).1, (Code.renderS cfg f prev c).2)
  register := Registry.register cfg

theorem modelRec_null (cfg : Cfg) (f : FileS) (c : Code) : (modelRec cfg).null f c = isNull f.np c := rfl

theorem modelRec_register (cfg : Cfg) : (modelRec cfg).register = Registry.register cfg := rfl

/-- what the translated methods ask of a recursion parameter on a set `S` of codes (the children) -/
structure Agrees (cfg : Cfg) (r : Go.Rec) (S : Code → Prop) : Prop where
  null : ∀ c, S c → ∀ f, r.null f c = isNull f.np c
  render : ∀ c, S c → ∀ f w p, Good cfg f → isNull f.np c = false →
    r.render f w p c = (modelRec cfg).render f w p c
  register : r.register = Registry.register cfg

theorem agrees_model (cfg : Cfg) : Agrees cfg (modelRec cfg) (fun _ => True) :=
  ⟨fun _ _ _ => rfl, fun _ _ _ _ _ _ _ => rfl, rfl⟩

/-- loop body of `Statement.render`, restated -/
def stmtStep (r : Go.Rec) (st : FileS × Bool × Str × Option Code) (c : Code) :
    Option (FileS × Bool × Str × Option Code) :=
  if Go.isNil c || r.null st.1 c then some (st.1, st.2.1, st.2.2.1, some c)
  else
    match r.render st.1 (if !st.2.1 then st.2.2.1 ++ b!" " else st.2.2.1) st.2.2.2 c with
    | none => none
    | some t => some (t.2, false, t.1, some c)

def stmtFin : Option (FileS × Bool × Str × Option Code) → Option (Str × FileS)
  | none => none
  | some t => some (t.2.2.1, t.1)

theorem Statement_render_shape (cfg : Cfg) (r : Go.Rec) (f : FileS) (items : List Code) (w : Str) :
    Gen.Src.Statement_render cfg r items f w =
      stmtFin (Go.foldOpt (stmtStep r) (f, true, w, none) items) := rfl

theorem stmt_fold (cfg : Cfg) {r : Go.Rec} {S : Code → Prop} (ha : Agrees cfg r S) :
    ∀ (cs : List Code) (f : FileS) (first : Bool) (w : Str) (prev : Option Code),
    (∀ c ∈ cs, S c) → Good cfg f →
    stmtFin (Go.foldOpt (stmtStep r) (f, first, w, prev) cs) =
      if misuseList f.np cs then none
      else some (w ++ (renderStmtS cfg first prev f cs).1, (renderStmtS cfg first prev f cs).2)
  | [], f, first, w, prev, _, _ => by
      simp [Go.foldOpt, stmtFin, misuseList, renderStmtS]
  | c :: cs, f, first, w, prev, hS, hg => by
      have hc : S c := hS c (List.mem_cons_self ..)
      have hS' : ∀ c' ∈ cs, S c' := fun c' h => hS c' (List.mem_cons_of_mem _ h)
      rw [Go.foldOpt, renderStmtS, misuseList]
      simp only [stmtStep, ha.null c hc, isNil_or_isNull]
      cases hn : isNull f.np c with
      | true =>
        simp only [if_true]
        rw [stmt_fold cfg ha cs f first w (some c) hS' hg]
        simp
      | false =>
        simp only [Bool.false_eq_true, if_false, ha.render c hc _ _ _ hg hn, modelRec]
        cases misuse f.np c with
        | true => simp [stmtFin]
        | false =>
          have he := Frame.renderS_ext cfg f prev c hg
          simp only [Bool.false_eq_true, if_false]
          rw [stmt_fold cfg ha cs _ false _ (some c) hS' (good_of_ext hg he), he.np_eq]
          cases first <;> simp [List.append_assoc]

theorem Statement_render_agrees (cfg : Cfg) {r : Go.Rec} {S : Code → Prop} (ha : Agrees cfg r S)
    (items : List Code) (hS : ∀ c ∈ items, S c) (f : FileS) (hg : Good cfg f) (w : Str) (prev : Option Code) :
    Gen.Src.Statement_render cfg r items f w = (modelRec cfg).render f w prev (.stmt items) := by
  rw [Statement_render_shape, stmt_fold cfg ha items f true w none hS hg]
  rfl

theorem Statement_render_eq (cfg : Cfg) (f : FileS) (hg : Good cfg f) (items : List Code) (w : Str) :
    Gen.Src.Statement_render cfg (modelRec cfg) items f w = (modelRec cfg).render f w none (.stmt items) :=
  Statement_render_agrees cfg (agrees_model cfg) items (fun _ _ => trivial) f hg w none

/-- the loop of the translated `Group.countItems` -/
theorem countItems_fold (np : Str → Bool) (q : Code → Bool) : ∀ (cs : List Code) (n : Int),
    (∀ c ∈ cs, q c = isNull np c) →
    List.foldl (fun (n : Int) c => if (!(Go.isNil c) && !(q c)) = true then n + 1 else n) n cs =
      n + (countKept np cs : Int)
  | [], n, _ => by simp [countKept]
  | c :: cs, n, hq => by
      rw [List.foldl, countItems_fold np q cs _ (fun c' h => hq c' (List.mem_cons_of_mem _ h)),
        hq c (List.mem_cons_self ..), countKept, ← Bool.not_or, isNil_or_isNull]
      cases isNull np c <;> simp <;> omega

theorem Group_countItems_agrees (cfg : Cfg) (r : FileS → Code → Bool) (g : GInfo) (items : List Code) (f : FileS)
    (h : ∀ c ∈ items, r f c = isNull f.np c) :
    Gen.Src.Group_countItems cfg r g items f = (countKept f.np items : Int) :=
  (countItems_fold f.np (r f) items 0 h).trans (Int.zero_add _)

theorem Group_countItems_eq (cfg : Cfg) (g : GInfo) (items : List Code) (f : FileS) :
    Gen.Src.Group_countItems cfg (modelRec cfg).null g items f = (countKept f.np items : Int) :=
  Group_countItems_agrees cfg _ g items f fun _ _ => rfl

theorem goIsDict_eq (c : Code) : Go.isDict c = Code.isDict c := by
  cases c <;> rfl

theorem preReg_eq (cfg : Cfg) (f : FileS) (c : Code) :
    (if (Go.isToken c && (Go.tokTyp c == Go.TokTyp.packageToken)) = true
      then (Registry.register cfg f (Go.tokContent c)).2 else f) = preReg cfg f c := by
  cases c with
  | tok k s => cases k <;> rfl
  | lit v => cases v <;> rfl
  | _ => rfl

/-- what `Group.renderItems` writes before a kept item is the model's `itemLead` -/
theorem lead_eq (g : GInfo) (first : Bool) (w : Str) :
    (if g.multi = true then (if (!first && g.sep != ([] : Str)) = true then w ++ g.sep else w) ++ b!"\n"
      else (if (!first && g.sep != ([] : Str)) = true then w ++ g.sep else w)) = w ++ itemLead g first := by
  unfold itemLead
  cases g.multi <;> cases (!first && g.sep != ([] : Str)) <;> simp

/-- loop body of `Group.renderItems`, restated (`big` : the group has more than one item that
    renders something, asked at the state the loop has reached) -/
def itemStep (r : Go.Rec) (g : GInfo) (big : FileS → Bool) (st : FileS × Bool × Str) (c : Code) :
    Option (FileS × Bool × Str) :=
  let f0 := if Go.isToken c && (Go.tokTyp c == Go.TokTyp.packageToken)
    then (r.register st.1 (Go.tokContent c)).2 else st.1
  if Go.isNil c || r.null f0 c then some (f0, st.2.1, st.2.2)
  else if (g.name == b!"values") && (Go.isDict c && big f0) then none
  else
    match r.render f0
      (if g.multi then (if !st.2.1 && g.sep != ([] : Str) then st.2.2 ++ g.sep else st.2.2) ++ b!"\n"
        else (if !st.2.1 && g.sep != ([] : Str) then st.2.2 ++ g.sep else st.2.2)) none c with
    | none => none
    | some t => some (t.2, false, t.1)

def itemFin : Option (FileS × Bool × Str) → Option (Bool × Str × FileS)
  | none => none
  | some t => some (t.2.1, t.2.2, t.1)

theorem Group_renderItems_shape (cfg : Cfg) (r : Go.Rec) (f : FileS) (g : GInfo) (items : List Code) (w : Str) :
    Gen.Src.Group_renderItems cfg r g items f w =
      itemFin (Go.foldOpt (itemStep r g
        (fun f' => decide (Gen.Src.Group_countItems cfg r.null g items f' > (1 : Int)))) (f, true, w) items) := rfl

theorem item_fold (cfg : Cfg) {r : Go.Rec} {S : Code → Prop} (ha : Agrees cfg r S) (g : GInfo)
    (bigF : FileS → Bool) (big : Bool) : ∀ (cs : List Code) (f : FileS) (first : Bool) (w : Str),
    (∀ c ∈ cs, S c) → Good cfg f → (∀ f', Ext f f' → bigF f' = big) →
    itemFin (Go.foldOpt (itemStep r g bigF) (f, first, w) cs) =
      if misuseItems f.np (g.name == b!"values" && big) cs then none
      else some ((renderItemsS cfg g first f cs).2.1, w ++ (renderItemsS cfg g first f cs).1,
        (renderItemsS cfg g first f cs).2.2)
  | [], f, first, w, _, _, _ => by
      simp [Go.foldOpt, itemFin, misuseItems, renderItemsS]
  | c :: cs, f, first, w, hS, hg, hb => by
      have hc : S c := hS c (List.mem_cons_self ..)
      have hS' : ∀ c' ∈ cs, S c' := fun c' h => hS c' (List.mem_cons_of_mem _ h)
      have he0 := preReg_ext cfg f hg c
      have hg0 := good_of_ext hg he0
      have hb0 : ∀ f', Ext (preReg cfg f c) f' → bigF f' = big := fun f' h' => hb f' (he0.trans h')
      rw [Go.foldOpt, renderItemsS_cons, misuseItems]
      simp only [itemStep, ha.null c hc, isNil_or_isNull]
      -- every test is made at `preReg cfg f c`, whose null-path test is that of `f`
      rw [ha.register, preReg_eq, he0.np_eq]
      cases hn : isNull f.np c with
      | true =>
        simp only [if_true]
        rw [item_fold cfg ha g bigF big cs _ first w hS' hg0 hb0, he0.np_eq]
      | false =>
        simp only [Bool.false_eq_true, if_false, goIsDict_eq, hb0 _ (Ext.refl _),
          ha.render c hc _ _ _ hg0 ((isNull_ext he0 c).trans hn)]
        rw [Bool.and_comm (Code.isDict c) big, ← Bool.and_assoc]
        cases ((g.name == b!"values" && big) && Code.isDict c) with
        | true => simp [itemFin]
        | false =>
          simp only [Bool.false_eq_true, if_false, Bool.false_or, modelRec, he0.np_eq]
          cases misuse f.np c with
          | true => simp [itemFin]
          | false =>
            have he := Frame.renderS_ext cfg _ none c hg0
            simp only [Bool.false_eq_true, if_false, Bool.false_or]
            rw [item_fold cfg ha g bigF big cs _ false _ hS' (good_of_ext hg0 he) (fun f' h' => hb0 f' (he.trans h')),
              he.np_eq, he0.np_eq, lead_eq]
            cases misuseItems f.np (g.name == b!"values" && big) cs
            · simp only [if_false, Bool.false_eq_true, List.append_assoc]
            · simp only [if_true]

theorem Group_renderItems_agrees (cfg : Cfg) {r : Go.Rec} {S : Code → Prop} (ha : Agrees cfg r S)
    (g : GInfo) (items : List Code) (hS : ∀ c ∈ items, S c) (f : FileS) (hg : Good cfg f) (w : Str) :
    Gen.Src.Group_renderItems cfg r g items f w =
      if Code.misuseItems f.np (g.name == b!"values" && decide (countKept f.np items > 1)) items then none
      else some ((Code.renderItemsS cfg g true f items).2.1, w ++ (Code.renderItemsS cfg g true f items).1,
        (Code.renderItemsS cfg g true f items).2.2) := by
  rw [Group_renderItems_shape, item_fold cfg ha g _ (decide (countKept f.np items > 1)) items f true w hS hg]
  -- left: the count the loop asks for is the same at every state it reaches
  intro f' he
  rw [Group_countItems_agrees cfg _ g items f' (fun c hc => ha.null c (hS c hc) f'), he.np_eq]
  exact Go.len_gt_one _

theorem Group_renderItems_eq (cfg : Cfg) (f : FileS) (hg : Good cfg f) (g : GInfo) (items : List Code) (w : Str) :
    Gen.Src.Group_renderItems cfg (modelRec cfg) g items f w =
      if Code.misuseItems f.np (g.name == b!"values" && decide (countKept f.np items > 1)) items then none
      else some ((Code.renderItemsS cfg g true f items).2.1, w ++ (Code.renderItemsS cfg g true f items).1,
        (Code.renderItemsS cfg g true f items).2.2) :=
  Group_renderItems_agrees cfg (agrees_model cfg) g items (fun _ _ => trivial) f hg w

theorem caseOrDefault_eq (prev : Option Code) :
    ((Go.isGroupO prev && ((Go.groupInfoO prev).name == b!"case")) ||
      (Go.isTokenO prev && Go.tokContentIsO prev b!"default")) = isCaseOrDefault prev := by
  cases prev with
  | none => rfl
  | some c =>
    cases c with
    | lit v => cases v <;> rfl
    | group g items => exact Bool.or_false _
    | _ => rfl

theorem pair_eta {α β} (p : α × β) : (p.1, p.2) = p := rfl

theorem delims_eq (g : GInfo) (prev : Option Code) :
    (if (g.name == b!"block" && !prev.isNone) = true
      then (if isCaseOrDefault prev = true then (([] : Str), ([] : Str)) else (g.cls, g.opn))
      else (g.cls, g.opn)) = ((effDelims g prev).2, (effDelims g prev).1) := by
  unfold effDelims
  cases prev with
  | none => simp [isCaseOrDefault]
  | some c => cases (g.name == b!"block") <;> cases isCaseOrDefault (some c) <;> simp

theorem closeSep_eq (g : GInfo) (cls w : Str) (e : Bool) :
    (if (!e && g.multi && cls != ([] : Str)) = true
      then w ++ (if (g.sep == b!",") = true then b!",\n" else b!"\n") else w) = w ++ closeSep g cls e := by
  unfold closeSep
  cases (!e && g.multi && cls != ([] : Str))
  · simp only [if_false, List.append_nil, Bool.false_eq_true]
  · simp only [if_true]

theorem Group_render_agrees (cfg : Cfg) {r : Go.Rec} {S : Code → Prop} (ha : Agrees cfg r S)
    (g : GInfo) (items : List Code) (hS : ∀ c ∈ items, S c) (f : FileS) (hg : Good cfg f) (w : Str)
    (prev : Option Code) :
    Gen.Src.Group_render cfg r g items f w prev = (modelRec cfg).render f w prev (.group g items) := by
  unfold Gen.Src.Group_render
  have hnull : Gen.Src.Group_isNullItems cfg r.null g items f = allNull f.np items :=
    Group_isNullItems_agrees cfg _ f g items fun c hc => ha.null c (hS c hc) f
  simp only [hnull, Group_renderItems_agrees cfg ha g items hS f hg, caseOrDefault_eq, Go.append_if_ne_nil,
    pair_eta, delims_eq, closeSep_eq]
  simp only [modelRec, misuse, renderS]
  cases (g.name == b!"types" && allNull f.np items)
  · simp only [if_false, Bool.false_eq_true]
    cases misuseItems f.np (g.name == b!"values" && decide (countKept f.np items > 1)) items
    · simp only [if_false, Bool.false_eq_true, List.append_assoc]
    · simp only [if_true]
  · simp only [if_true, Bool.false_eq_true, if_false, List.append_nil]

theorem Group_render_eq (cfg : Cfg) (f : FileS) (hg : Good cfg f) (g : GInfo) (items : List Code) (w : Str)
    (prev : Option Code) :
    Gen.Src.Group_render cfg (modelRec cfg) g items f w prev = (modelRec cfg).render f w prev (.group g items) :=
  Group_render_agrees cfg (agrees_model cfg) g items (fun _ _ => trivial) f hg w prev

/-- the hypothesis `Good cfg f` is satisfiable (by every state passing the hint guard) -/
example : ∃ cfg f, Good cfg f :=
  ⟨RegistryInv.cfg0, RegistryInv.f0, RegistryGood.good_of_hintsOk RegistryInv.hintsOk_f0 RegistryInv.stdOk_cfg0⟩

#print axioms Statement_render_eq
#print axioms Group_renderItems_eq
#print axioms Group_countItems_eq
#print axioms Group_render_eq

end Tie
