import JenVerif.Gen.SrcRegistry
import JenVerif.Props.Common
import JenVerif.Tie.GoLemmas
/-
  Tie 1b — the import-registry functions TRANSLATED from /repo's Go source (Gen/SrcRegistry.lean,
  regenerated on every check) are equal to the hand-written model functions that the property
  theorems are about.  One theorem per translated function; a theorem that no longer checks means
  the Go function changed in a way the automation cannot see through (or left the translated
  subset): the check then falls back to the behavioural tie with the escalated budget.
-/
namespace Tie
open Registry Props

theorem IsReservedWord_eq (cfg : Cfg) (a : Str) : Gen.Src.IsReservedWord cfg a = Gen.reserved.contains a := by
  unfold Gen.Src.IsReservedWord
  rw [Go.ite_bool, List.contains_eq_any_beq]

theorem isLocal_eq (cfg : Cfg) (f : FileS) (p : Str) : Gen.Src.isLocal cfg f p = isLocal f p := by
  simp [Gen.Src.isLocal, isLocal]

theorem prefixed_eq (cfg : Cfg) (f : FileS) (n : Str) (a : Bool) : Gen.Src.prefixed cfg f n a = prefixed f n a := by
  unfold Gen.Src.prefixed prefixed
  -- all eight cases of the three tests: any Boolean rearrangement of the Go condition (De Morgan,
  -- reordered tests, early return of the other branch) still checks
  by_cases h1 : f.pfx = [] <;> by_cases h2 : n = b!"." <;> cases a <;> simp [h1, h2, List.append_assoc]

theorem isValidAlias_eq (tl : Str → Str) (ip : Nat → Bool) (f : FileS) (a : Str) :
    Gen.Src.isValidAlias (cfgOf tl ip) f a = isValidAlias (cfgOf tl ip) f a := by
  unfold Gen.Src.isValidAlias isValidAlias
  have hany : Go.anyEntry f.imports (fun _ v => a == v.name) = f.imports.any fun e => e.2.name == a :=
    congrArg f.imports.any (funext fun e => Bool.beq_comm)
  rw [IsReservedWord_eq, hany]
  simp only [cfgOf, List.contains_cons]
  -- a Boolean function of four tests: the code's early returns against the model's one expression
  generalize (a == b!".") = d
  generalize (a == b!"C") = c
  generalize Gen.reserved.contains a = r
  generalize (f.imports.any fun e => e.2.name == a) = u
  cases d <;> cases c <;> cases r <;> cases u <;> rfl

theorem isDotImport_eq (cfg : Cfg) (f : FileS) (p : Str) : Gen.Src.isDotImport cfg f p = isDotImport f p := by
  unfold Gen.Src.isDotImport isDotImport isReg lookupImp lookupHint Go.getDef Go.has
  by_cases h1 : p = b!"C"
  · simp [h1]
  · simp only [h1, beq_iff_eq, if_false]
    cases hh : AList.lookup f.hints p <;> cases hi : AList.lookup f.imports p <;> simp [Bool.and_comm]

theorem Anon_eq (cfg : Cfg) (f : FileS) (ps : List Str) : Gen.Src.Anon cfg f ps = ps.foldl anon f := by
  rfl

theorem ImportName_eq (cfg : Cfg) (f : FileS) (p n : Str) : Gen.Src.ImportName cfg f p n = importName f p n := by
  simp [Gen.Src.ImportName, importName]

theorem ImportAlias_eq (cfg : Cfg) (f : FileS) (p n : Str) : Gen.Src.ImportAlias cfg f p n = importAlias f p n := by
  simp [Gen.Src.ImportAlias, importAlias]

/-- `m` is the map's content in the order the runtime iterates it -/
theorem ImportNames_eq (cfg : Cfg) (f : FileS) (m : List (Str × Str)) :
    Gen.Src.ImportNames cfg f m = importNames f m := by
  simp [Gen.Src.ImportNames, importNames, importName]

end Tie
