import JenVerif.Gen.SrcRegistry
import JenVerif.Lemmas.RegistryInv
/-
  Tie 1b for `Statement.previous`, TRANSLATED from the Go source (the search loop with
  `break`, the guarded index expression), and what it returns.

  `Group.render` asks its context statement `s.previous(g)`: the item before the FIRST occurrence of
  the pointer `g` in `s`.  The translated `Group.render` / `Statement.render` (Tie/RenderSrc) pass the
  ANSWER — the raw previous item carried by the loop of `Statement.render` — instead of the question.
  This file closes that step: for every statement `pre ++ g :: post` in which no item of `pre` IS `g`
  (pointer comparison, the parameter `same`), the translated `previous` returns exactly the last
  item of `pre` (`none` when `g` is the first item) — the value the loop carries when it reaches `g`.
  What remains an assumption is only that a `*Group` does not occur twice in one statement (it can
  only if a caller captures the pointer handed to a callback and inserts it again; DESIGN §10.7).
  The index expression `(*s)[index-1]` is in range whenever it is evaluated.
-/
namespace Tie

theorem firstIndexFrom_append {α} (p : α → Bool) (d : Int) (pre : List α) (g : α) (post : List α)
    (hpre : ∀ x ∈ pre, p x = false) (hg : p g = true) (i : Int) :
    Go.firstIndexFrom p d i (pre ++ g :: post) = i + pre.length := by
  induction pre generalizing i with
  | nil => simp [Go.firstIndexFrom, hg]
  | cons x xs ih =>
    simp only [List.cons_append, Go.firstIndexFrom, hpre x (by simp), Bool.false_eq_true, if_false]
    rw [ih (fun y hy => hpre y (by simp [hy]))]
    simp only [List.length_cons]
    omega

theorem firstIndexFrom_none {α} (p : α → Bool) (d : Int) (xs : List α) (h : ∀ x ∈ xs, p x = false) (i : Int) :
    Go.firstIndexFrom p d i xs = d := by
  induction xs generalizing i with
  | nil => rfl
  | cons x xs ih =>
    simp only [Go.firstIndexFrom, h x (by simp), Bool.false_eq_true, if_false]
    exact ih (fun y hy => h y (by simp [hy])) _

theorem Statement_previous_eq (cfg : Cfg) (same : Code → Bool) (pre : List Code) (g : Code) (post : List Code)
    (hpre : ∀ x ∈ pre, same x = false) (hg : same g = true) :
    Gen.Src.Statement_previous cfg (pre ++ g :: post) same = pre.getLast? := by
  simp only [Gen.Src.Statement_previous, Go.firstIndexOr, firstIndexFrom_append same _ pre g post hpre hg 0]
  rcases List.eq_nil_or_concat pre with rfl | ⟨init, x, rfl⟩
  · rfl
  · -- `index - 1 = len(init)` is in range and holds the last item of `pre = init ++ [x]`
    have hi : (0 : Int) + ((init.concat x).length : Nat) - 1 = (init.length : Nat) := by
      rw [List.length_concat]; omega
    have hpos : (0 : Int) + ((init.concat x).length : Nat) > 0 := by
      rw [List.length_concat]; omega
    rw [decide_eq_true hpos, if_pos rfl, hi, Go.itemAt, if_neg (by omega), Int.toNat_natCast]
    simp

/-- when the value does not occur in the statement at all: nil (`Group.render`'s test for a preceding
    `case` or `default` then fails) -/
theorem Statement_previous_absent (cfg : Cfg) (same : Code → Bool) (items : List Code)
    (h : ∀ x ∈ items, same x = false) :
    Gen.Src.Statement_previous cfg items same = none := by
  simp [Gen.Src.Statement_previous, Go.firstIndexOr, firstIndexFrom_none same _ items h 0]

/-- the value carried by the loop of `Statement.render` (Tie/RenderSrc `stmtStep`: `some c` of the
    raw previous item, `none` at the first item) is this answer -/
theorem carried_prev_is_previous (cfg : Cfg) (same : Code → Bool) (pre : List Code) (g : Code) (post : List Code)
    (hpre : ∀ x ∈ pre, same x = false) (hg : same g = true) :
    Gen.Src.Statement_previous cfg (pre ++ g :: post) same =
      (pre.foldl (fun (_ : Option Code) c => some c) none) := by
  rw [Statement_previous_eq cfg same pre g post hpre hg]
  rcases List.eq_nil_or_concat pre with rfl | ⟨init, x, rfl⟩
  · rfl
  · rw [List.concat_eq_append, List.foldl_append, List.getLast?_concat]
    rfl

-- non-vacuity: Case(x) directly before the Block that asks
def exCase : Code := .group ⟨b!"case", b!"case ", b!":", b!",", false⟩ [.tok .ident b!"x"]

def exBlock : Code := .group ⟨b!"block", b!"{", b!"}", [], true⟩ []

def isBlock : Code → Bool
  | .group gi _ => gi.name == b!"block"
  | _ => false

example : Gen.Src.Statement_previous RegistryInv.cfg0 ([exCase] ++ exBlock :: []) isBlock = [exCase].getLast? :=
  Statement_previous_eq _ isBlock [exCase] exBlock [] (by simp [exCase, isBlock]) (by simp [exBlock, isBlock])

#print axioms Statement_previous_eq
#print axioms Statement_previous_absent
#print axioms carried_prev_is_previous

end Tie
