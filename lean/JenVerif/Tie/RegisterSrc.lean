import JenVerif.Tie.RegistrySrc
import JenVerif.Tie.GuessAliasSrc
/-
  Tie 1b — `Gen.Src.register` (translated from `(*File).register`, jen/file.go) equals the
  hand-written model `Registry.register`, for all file states, every `strings.ToLower`, every library
  satisfying `Go.Lib.AsciiOk`, and every fuel above an explicit bound (the Go loops have no fuel: the
  bound says when the translation's loops have stopped by their own condition).  `register_eq` takes
  the tie of `guessAlias` as a hypothesis; `register_src_eq_model` discharges it, and the C05 / C08
  facts about `register` are then read off the translated function.
-/
namespace Tie
open Registry RegistryInv Props

/-- a `Go.loop` over the state `(i, unique)` whose condition / body act like the uniquifier on the
    states `(k, candidate name k)` computes `uniqLoop` -/
theorem loop_uniq (cfg : Cfg) (f : FileS) (name : Str) (alias : Bool) (fuel : Nat)
    (cond : Int × Str → Bool) (body : Int × Str → Int × Str)
    (hc : ∀ k, cond (Int.ofNat k, candidate name k) = !acceptable cfg f name alias k)
    (hb : ∀ k, body (Int.ofNat k, candidate name k) = (Int.ofNat (k + 1), candidate name (k + 1))) :
    Go.loop fuel cond body ((0 : Int), name) =
      (Int.ofNat (uniqLoop cfg f name alias fuel 0), candidate name (uniqLoop cfg f name alias fuel 0)) := by
  suffices h : ∀ k, Go.loop fuel cond body (Int.ofNat k, candidate name k) =
      (Int.ofNat (uniqLoop cfg f name alias fuel k), candidate name (uniqLoop cfg f name alias fuel k)) from h 0
  induction fuel with
  | zero => intro k; rfl
  | succ n ih =>
    intro k
    unfold Go.loop uniqLoop
    rw [hc k]
    cases acceptable cfg f name alias k with
    | true => rfl
    | false =>
      simp only [Bool.not_false, if_true, Bool.false_eq_true, if_false]
      rw [hb k, ih (k + 1)]

theorem register_eq (tl : Str → Str) (ip : Nat → Bool) (lib : Go.Lib) (f : FileS) (p : Str)
    (fuel : Nat)
    (hg : Gen.Src.guessAlias (cfgOf tl ip) lib fuel p = guessAlias tl p)
    (hf : uniqFuel (cfgOf tl ip) f ≤ fuel) :
    Gen.Src.register (cfgOf tl ip) lib fuel f p = register (cfgOf tl ip) f p := by
  cases h1 : isLocal f p with
  | true =>
    rw [register_local h1]
    unfold Gen.Src.register
    simp only [isLocal_eq, h1, if_true]
  | false =>
    cases h2 : isReg f p with
    | true =>
      rw [register_reg h1 h2]
      have h2' : ((Go.getDef f.imports p).name != [] && (Go.getDef f.imports p).name != b!"_") = true := h2
      unfold Gen.Src.register
      simp only [isLocal_eq, h1, h2', if_true, Bool.false_eq_true, if_false]
      rfl
    | false =>
      have h2' : ((Go.getDef f.imports p).name != [] && (Go.getDef f.imports p).name != b!"_") = false := h2
      by_cases h3 : p = b!"C"
      · subst h3
        rw [register_C_new h1 h2]
        unfold Gen.Src.register
        simp only [isLocal_eq, h1, h2', if_true, Bool.false_eq_true, if_false, BEq.rfl]
      · rw [register_new h1 h2 h3]
        have h3' : (p == b!"C") = false := by simpa using h3
        unfold Gen.Src.register
        simp only [isLocal_eq, isValidAlias_eq, prefixed_eq, hg, h1, h2', h3', Bool.false_eq_true, if_false]
        -- the choice of (alias, name) occurs a dozen times: name it; it is the model's `chooseBase`
        generalize hch : (if ((Go.getDef f.hints p).name != []) = true then _ else _ : Bool × Str) = ch
        have hb : chooseBase (cfgOf tl ip) f p = (ch.2, ch.1) := by
          rw [← hch]
          unfold chooseBase
          -- the model's tests in the code's words (`lookupHint`, `stdHint` unfold to them), so that one
          -- `split` decides both sides
          show (if ((Go.getDef f.hints p).name != []) = true then _ else
            if (Go.getStr Gen.stdHints p != []) = true then _ else _) = _
          split
          · rfl
          · split <;> rfl
        unfold chooseDef
        -- replace the generated loop by `uniqLoop`, then the fuel by `uniqFuel`, then compare
        rw [hb, loop_uniq (cfgOf tl ip) f ch.2 ch.1 fuel _ _
            (by intro k; simp only [acceptable, candidate_bne_name, Bool.not_and])
            (by intro k; rfl),
          uniqLoop_fuel (cfgOf tl ip) f ch.2 ch.1 fuel hf]
        simp only [candidate_bne_name, Go.ite_true_or]

/-- the hypotheses are satisfiable (and the conclusion can be used) -/
example : Gen.Src.register (cfgOf id fun _ => true) Go.Lib.ascii 200 {} b!"a/b1" =
    register (cfgOf id fun _ => true) {} b!"a/b1" :=
  register_eq id (fun _ => true) Go.Lib.ascii {} b!"a/b1" 200 (by decide +kernel) (by decide +kernel)

/-- fuel that suffices for both loops of `register` (digit stripping in guessAlias, uniquifier) -/
def registerFuel (tl : Str → Str) (ip : Nat → Bool) (f : FileS) (p : Str) : Nat :=
  max (guessFuel (cfgOf tl ip) p) (uniqFuel (cfgOf tl ip) f)

theorem register_src_eq_model (tl : Str → Str) (ip : Nat → Bool) (lib : Go.Lib) (hl : lib.AsciiOk)
    (f : FileS) (p : Str) (fuel : Nat) (hf : registerFuel tl ip f p ≤ fuel) :
    Gen.Src.register (cfgOf tl ip) lib fuel f p = register (cfgOf tl ip) f p :=
  register_eq tl ip lib f p fuel
    (guessAlias_eq (cfgOf tl ip) lib hl p fuel (Nat.le_trans (Nat.le_max_left _ _) hf))
    (Nat.le_trans (Nat.le_max_right _ _) hf)

/-- more fuel never changes the result: the translated loops have terminated -/
theorem register_src_fuel_stable (tl : Str → Str) (ip : Nat → Bool) (lib : Go.Lib) (hl : lib.AsciiOk)
    (f : FileS) (p : Str) (fuel fuel' : Nat) (hf : registerFuel tl ip f p ≤ fuel)
    (hf' : registerFuel tl ip f p ≤ fuel') :
    Gen.Src.register (cfgOf tl ip) lib fuel f p = Gen.Src.register (cfgOf tl ip) lib fuel' f p := by
  rw [register_src_eq_model tl ip lib hl f p fuel hf, register_src_eq_model tl ip lib hl f p fuel' hf']

/-- TRANSFER (C05 stated about the code as written): the registry invariant — one entry per
    path, distinct paths never share a real name, every real name is a legal, unreserved Go
    identifier — is preserved by the TRANSLATED `register`, for every path string -/
theorem register_src_keeps_invariant (tl : Str → Str) (ip : Nat → Bool) (lib : Go.Lib) (hl : lib.AsciiOk)
    (f : FileS) (p : Str) (fuel : Nat) (hf : registerFuel tl ip f p ≤ fuel)
    (hI : RegistryInv.Inv (cfgOf tl ip) f) (hH : RegistryInv.HintsOk f) (hC : RegistryInv.CGuard f p) :
    RegistryInv.Inv (cfgOf tl ip) (Gen.Src.register (cfgOf tl ip) lib fuel f p).2 := by
  rw [register_src_eq_model tl ip lib hl f p fuel hf]
  exact RegistryInv.register_inv hI hH (Props.stdOk tl ip) p hC

/-- TRANSFER (C08): for a (non-local) path registered under a real name the translated `register`
    returns that name and leaves the table unchanged -/
theorem register_src_returns_stored_name (tl : Str → Str) (ip : Nat → Bool) (lib : Go.Lib) (hl : lib.AsciiOk)
    (f : FileS) (p : Str) (fuel : Nat) (hf : registerFuel tl ip f p ≤ fuel) (hloc : isLocal f p = false)
    (h : isReg f p = true) :
    Gen.Src.register (cfgOf tl ip) lib fuel f p = ((lookupImp f p).name, f) := by
  rw [register_src_eq_model tl ip lib hl f p fuel hf, register_reg hloc h]

-- non-vacuity and a concrete evaluation of the TRANSLATED code: two paths ending in /d
example : (Gen.Src.register (cfgOf id (fun _ => true)) Go.Lib.ascii 300
      (Gen.Src.register (cfgOf id (fun _ => true)) Go.Lib.ascii 300 {} b!"a.com/d").2 b!"b.com/d").1 = b!"d1" := by
  decide +kernel

end Tie

#print axioms Tie.register_eq
