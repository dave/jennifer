import JenVerif.Tie.RegistrySrc
/-
  Tie 1b for the null tests.  `isNull` is a method of the `Code` interface with six
  implementations that call each other through the interface.  The translator renders every
  dynamic call `c.isNull(f)` as a call of a PARAMETER `recNull` (open recursion).  Each translated
  test is the model's `Code.isNull` on its node for ANY parameter that is the model's test on the
  children (`…_agrees`; `Tie/Whole` closes the recursion with these).  With the model itself put in
  (`…_eq`) they say that the model's null test is a fixed point of the code's six definitions, node
  by node.  Since `Code` is an inductive type (finite trees; the Go recursion is structural on the
  same tree), that fixed point is unique — the model's `isNull` IS what the Go methods compute.
  Outside the model: typed nil receivers (a nil *Group or *Statement stored in a Code value; the
  translated `g == nil` / `s == nil` tests are `false`), Dict pairs with a Go nil key or value.
-/
namespace Tie
open Code

/-- the model's null test, in the shape of the recursion parameter -/
def modelNull (f : FileS) (c : Code) : Bool := Code.isNull f.np c

/-- token kinds of the model for the token types of jen/tokens.go (literal tokens are the separate
    constructor `Code.lit`; `qualifiedToken` is never constructed) -/
def kindOf : Go.TokTyp → Option TokKind
  | .packageToken => some .pkg
  | .identifierToken => some .ident
  | .keywordToken => some .kw
  | .operatorToken => some .op
  | .delimiterToken => some .delim
  | .layoutToken => some .layout
  | .nullToken => some .null
  | _ => none

/-- the callers' `c != nil && !c.isNull(f)` is the model's `!isNull`: a Go nil is null in the model -/
theorem isNil_or_isNull (np : Str → Bool) (c : Code) : (Go.isNil c || isNull np c) = isNull np c := by
  cases c with
  | nilc => rw [isNull]; rfl
  | _ => rfl

theorem allNull_eq_any (np : Str → Bool) (q : Code → Bool) : ∀ (cs : List Code),
    (∀ c ∈ cs, q c = isNull np c) → allNull np cs = !(cs.any fun c => !(Go.isNil c) && !(q c))
  | [], _ => by simp [allNull]
  | c :: cs, hq => by
    rw [allNull, allNull_eq_any np q cs (fun c' h => hq c' (List.mem_cons_of_mem _ h)), List.any_cons,
      hq c (List.mem_cons_self ..), ← Bool.not_or, isNil_or_isNull, Bool.not_or, Bool.not_not]

theorem Group_isNullItems_agrees (cfg : Cfg) (r : FileS → Code → Bool) (f : FileS) (g : GInfo) (items : List Code)
    (h : ∀ c ∈ items, r f c = isNull f.np c) :
    Gen.Src.Group_isNullItems cfg r g items f = allNull f.np items := by
  unfold Gen.Src.Group_isNullItems
  rw [allNull_eq_any f.np (r f) items h]
  exact Go.ite_not_bool _

theorem Group_isNullItems_eq (cfg : Cfg) (f : FileS) (g : GInfo) (items : List Code) :
    Gen.Src.Group_isNullItems cfg modelNull g items f = allNull f.np items :=
  Group_isNullItems_agrees cfg _ f g items fun _ _ => rfl

theorem Group_isNull_agrees (cfg : Cfg) (r : FileS → Code → Bool) (f : FileS) (g : GInfo) (items : List Code)
    (h : ∀ c ∈ items, r f c = isNull f.np c) :
    Gen.Src.Group_isNull cfg r g items f = isNull f.np (.group g items) := by
  unfold Gen.Src.Group_isNull
  rw [Group_isNullItems_agrees cfg r f g items h, isNull]
  cases h1 : g.opn == ([] : Str) <;> cases h2 : g.cls == ([] : Str) <;> simp [bne, h1, h2]

theorem Group_isNull_eq (cfg : Cfg) (f : FileS) (g : GInfo) (items : List Code) :
    Gen.Src.Group_isNull cfg modelNull g items f = isNull f.np (.group g items) :=
  Group_isNull_agrees cfg _ f g items fun _ _ => rfl

theorem Statement_isNull_agrees (cfg : Cfg) (r : FileS → Code → Bool) (f : FileS) (items : List Code)
    (h : ∀ c ∈ items, r f c = isNull f.np c) :
    Gen.Src.Statement_isNull cfg r items f = isNull f.np (.stmt items) := by
  unfold Gen.Src.Statement_isNull
  simp only [isNull]
  rw [allNull_eq_any f.np (r f) items h]
  simp only [Bool.false_eq_true, if_false]
  exact Go.ite_not_bool _

theorem Statement_isNull_eq (cfg : Cfg) (f : FileS) (items : List Code) :
    Gen.Src.Statement_isNull cfg modelNull items f = isNull f.np (.stmt items) :=
  Statement_isNull_agrees cfg _ f items fun _ _ => rfl

theorem dictNull_eq_any (np : Str → Bool) (q : Code → Bool) : ∀ (ps : List (Code × Code)),
    (∀ kv ∈ ps, q kv.1 = isNull np kv.1 ∧ q kv.2 = isNull np kv.2) →
    dictNull np ps = !(ps.any fun kv => !(q kv.1) && !(q kv.2))
  | [], _ => by simp [dictNull]
  | (k, v) :: ps, hq => by
    have h := hq (k, v) (List.mem_cons_self ..)
    simp only [dictNull, dictNull_eq_any np q ps (fun kv h => hq kv (List.mem_cons_of_mem _ h)), List.any_cons,
      h.1, h.2]
    cases isNull np k <;> cases isNull np v <;> simp

theorem Dict_isNull_agrees (cfg : Cfg) (r : FileS → Code → Bool) (f : FileS) (ps : List (Code × Code))
    (h : ∀ kv ∈ ps, r f kv.1 = isNull f.np kv.1 ∧ r f kv.2 = isNull f.np kv.2) :
    Gen.Src.Dict_isNull cfg r ps f = isNull f.np (.dict ps) := by
  unfold Gen.Src.Dict_isNull
  simp only [isNull]
  rw [dictNull_eq_any f.np (r f) ps h, Go.len_eq_zero]
  cases ps with
  | nil => simp
  | cons p ps =>
    simp only [List.isEmpty_cons, Bool.false_or, Bool.false_eq_true, if_false]
    exact Go.ite_not_bool _

theorem Dict_isNull_eq (cfg : Cfg) (f : FileS) (ps : List (Code × Code)) :
    Gen.Src.Dict_isNull cfg modelNull ps f = isNull f.np (.dict ps) :=
  Dict_isNull_agrees cfg _ f ps fun _ _ => ⟨rfl, rfl⟩

theorem comment_isNull_eq (cfg : Cfg) (f : FileS) (c : Str) :
    Gen.Src.comment_isNull cfg c f = isNull f.np (.comment c) := by
  simp [Gen.Src.comment_isNull, isNull]

theorem tag_isNull_model (cfg : Cfg) (f : FileS) (t : List (Str × Str)) :
    Gen.Src.tag_isNull cfg t f = isNull f.np (.tag t) := by
  rw [isNull]
  exact Go.len_eq_zero t

/-- tokens that are not literals: package tokens are null iff the path is dot-imported or local,
    the null token is null, nothing else is -/
theorem token_isNull_eq (cfg : Cfg) (f : FileS) (typ : Go.TokTyp) (k : TokKind) (s : Str) (hk : kindOf typ = some k) :
    Gen.Src.token_isNull cfg typ s f = isNull f.np (.tok k s) := by
  unfold Gen.Src.token_isNull
  rw [isDotImport_eq, isLocal_eq]
  cases typ <;> simp [kindOf] at hk <;> subst hk <;> simp [isNull, FileS.np]

/-- literal tokens are never null -/
theorem token_isNull_lit (cfg : Cfg) (f : FileS) (typ : Go.TokTyp) (s : Str) (v : LitVal)
    (hl : typ = .literalToken ∨ typ = .literalRuneToken ∨ typ = .literalByteToken) :
    Gen.Src.token_isNull cfg typ s f = isNull f.np (.lit v) := by
  unfold Gen.Src.token_isNull
  rcases hl with h | h | h <;> subst h <;> simp [isNull]

/-- a Go nil in an item list is skipped by the callers' `c != nil` test and null in the model -/
theorem nil_is_null (f : FileS) : Go.isNil .nilc = true ∧ modelNull f .nilc = true := by
  simp [Go.isNil, modelNull, isNull]

end Tie
