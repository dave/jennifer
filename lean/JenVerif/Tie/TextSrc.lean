import JenVerif.Gen.SrcRegistry
import JenVerif.Tie.GoLemmas
import JenVerif.Lemmas.PermLemmas
import JenVerif.Props.Common
/-
  Tie 1b for the renderers that write text without recursing into a tree: `comment.render`
  (jen/comments.go), `tag.isNull` / `tag.render` (jen/tag.go) and `File.renderImports` (jen/jen.go).
  The functions TRANSLATED from the Go source (the `io.Writer` is the bytes written so far) append to
  what the writer holds exactly the text of the hand-written model functions `renderComment`,
  `renderTag` (Render.lean) and `renderImports` (FileRender.lean).

  A Go map (a tag, the import table) is an association list in iteration order; its keys are distinct.
  Both `tag.render` and `renderImports` range over the sorted keys: `Go.range_sorted`.
-/
namespace Tie
open List

theorem comment_render_eq (cfg : Cfg) (c : Str) (f : FileS) (out : Str) :
    Gen.Src.comment_render cfg c f out = out ++ renderComment c := by
  unfold Gen.Src.comment_render renderComment
  simp only [Go.hasSub_single, Go.hasSuffix_single]
  cases Str.isPrefixOf b!"//" c || Str.isPrefixOf b!"/*" c with
  | true => simp only [if_true]
  | false =>
    cases List.elem 10 c with
    | true =>
      cases c.getLast? == some 10 <;>
        simp only [if_true, if_false, Bool.not_true, Bool.not_false, Bool.false_eq_true,
          List.append_assoc, List.append_nil]
    | false => simp only [if_false, Bool.false_eq_true, List.append_assoc]

/-- the comment loops of `File.Render` and `renderImports` -/
theorem comment_fold (cfg : Cfg) (f : FileS) : ∀ (l : List Str) (acc : Str),
    l.foldl (fun acc c => Gen.Src.comment_render cfg c f acc ++ ([10] : Str)) acc = acc ++ commentLines l
  | [], acc => by simp [commentLines]
  | c :: l, acc => by
      rw [List.foldl_cons, comment_fold cfg f l, comment_render_eq]
      simp [commentLines, List.append_assoc]

theorem tag_isNull_eq (cfg : Cfg) (t : List (Str × Str)) (f : FileS) :
    Gen.Src.tag_isNull cfg t f = t.isEmpty := Go.len_eq_zero t

theorem join_append_cons (sep a b : Str) (rest : List Str) :
    Str.join sep ((a ++ b) :: rest) = a ++ Str.join sep (b :: rest) := by
  cases rest <;> simp [Str.join]

/-- `for _, k := range ks { if len(s) > 0 { s += sep }; s += g(k) }`, no `g(k)` empty, is `strings.Join` -/
theorem foldl_sep_join {α} (sep : Str) (g : α → Str) (hg : ∀ k, g k ≠ []) (ks : List α) :
    ks.foldl (fun s k => (if decide ((Int.ofNat s.length) > (0 : Int)) then s ++ sep else s) ++ g k) []
      = Str.join sep (ks.map g) := by
  -- from a non-empty accumulator on, every round adds a separator
  have h : ∀ (ks : List α) (acc : Str), acc ≠ [] →
      ks.foldl (fun s k => (if decide ((Int.ofNat s.length) > (0 : Int)) then s ++ sep else s) ++ g k) acc
        = Str.join sep (acc :: ks.map g) := by
    intro ks
    induction ks with
    | nil => intro acc _; rfl
    | cons k ks ih =>
      intro acc hacc
      rw [foldl_cons, Go.len_pos, if_pos (by simpa using hacc), ih _ (by simp [hg k]), join_append_cons]
      simp [Str.join]
  cases ks with
  | nil => rfl
  | cons k ks => exact h ks (g k) (hg k)

/-- a Go map has distinct keys -/
theorem tag_render_eq (cfg : Cfg) (t : List (Str × Str)) (f : FileS) (out : Str)
    (hk : (t.map (·.1)).Nodup) :
    Gen.Src.tag_render cfg t f out
      = out ++ (if t.isEmpty then [] else renderTag cfg.isPrint t) := by
  unfold Gen.Src.tag_render
  rw [tag_isNull_eq]
  cases hte : t.isEmpty with
  | true => simp
  | false =>
    simp only [Bool.false_eq_true, if_false, Go.foldl_snoc_map, List.nil_append]
    rw [foldl_sep_join _ _ (by intro k; simp),
      Go.range_sorted t tagLe (fun _ _ => rfl) _ (fun kv => kv.1 ++ b!":" ++ Quote.quote cfg.isPrint kv.2)
        fun e he => by rw [Go.getStr_of_mem hk he]]
    unfold renderTag
    simp only [List.append_assoc]

#print axioms comment_render_eq
#print axioms tag_isNull_eq
#print axioms tag_render_eq

example (cfg : Cfg) (f : FileS) (out : Str) :
    Gen.Src.tag_render cfg [(b!"json", b!"a"), (b!"db", b!"b")] f out
      = out ++ renderTag cfg.isPrint [(b!"json", b!"a"), (b!"db", b!"b")] :=
  tag_render_eq cfg _ f out (by decide)

theorem flatten_map_single {α β : Type _} (g : α → β) (l : List α) :
    (l.map fun x => [g x]).flatten = l.map g := by
  induction l with
  | nil => rfl
  | cons x xs ih => simp [ih]

/-- building a map from the entries of a map (distinct keys), skipping some of them, keeps the
    remaining entries in their order -/
theorem foldl_insert_if {β : Type _} (c : Str × β → Bool) (l acc : List (Str × β))
    (h : ((acc ++ l).map (·.1)).Nodup) :
    l.foldl (fun m kv => if c kv = true then m else AList.insert m kv.1 kv.2) acc
      = acc ++ l.filter (fun e => !c e) := by
  induction l generalizing acc with
  | nil => simp
  | cons e es ih =>
    rw [foldl_cons]
    cases hc : c e with
    | true =>
      have h' : ((acc ++ es).map (·.1)).Nodup := by
        refine h.sublist (Sublist.map _ ?_)
        exact Sublist.append_left (sublist_cons_self e es) acc
      simp [ih acc h', hc]
    | false =>
      have hfresh : e.1 ∉ acc.map (·.1) := by
        intro hm
        simp only [map_append, map_cons, nodup_append, mem_cons, forall_eq_or_imp] at h
        exact h.2.2 _ hm |>.1 rfl
      have h' : (((acc ++ [e]) ++ es).map (·.1)).Nodup := by simpa using h
      simp only [Bool.false_eq_true, if_false]
      rw [AList.insert_fresh acc e.1 e.2 hfresh, ih _ h']
      simp [hc]

theorem sep_eq (x d : Bool) : ((x || d) && d) = d := by cases x <;> cases d <;> rfl

section
open Props

/-- `(*File).renderImports` as written in /repo appends the model's import block, in every file state
    whose import table is a map (distinct keys: C05's invariant) -/
theorem renderImports_src_eq_model (cfg : Cfg) (f : FileS) (out : Str) (hk : (f.imports.map (·.1)).Nodup) :
    Gen.Src.renderImports cfg f out = out ++ renderImports cfg.isPrint f := by
  rw [PermLemmas.renderImports_eq]
  unfold Gen.Src.renderImports
  -- `separateCgo` is `len(f.cgo) > 0`: `hasCgo`, its other conjunct, contains that test
  simp only [sep_eq, Go.len_pos]
  rw [foldl_insert_if _ _ _ (by simpa using hk)]
  have hfl : ((f.imports.filter fun e => !(e.1 == b!"C" && !f.cgo.isEmpty)).map (·.1)).Nodup :=
    hk.sublist (filter_sublist.map _)
  simp only [nil_append]
  generalize f.imports.filter (fun e => !(e.1 == b!"C" && !f.cgo.isEmpty)) = fl at hfl ⊢
  -- the cgo part is appended to whatever the main block is
  simp only [comment_fold, append_assoc, Go.ite_append]
  rw [← append_assoc]
  congr 1
  simp only [Go.ite_append_left, Go.foldl_snoc_map, Go.foldl_append_flatten, nil_append]
  rcases fl with _ | ⟨e1, _ | ⟨e2, rest⟩⟩
  · simp [PermLemmas.importsMain]
  · simp [PermLemmas.importsMain, importSpec]
    split <;> simp
  · have h1 : ((Int.ofNat (rest.length + 1 + 1)) == (1 : Int)) = false :=
      beq_eq_false_iff_ne.mpr (show ((rest.length + 1 + 1 : Nat) : Int) ≠ 1 by omega)
    have h2 : decide ((Int.ofNat (rest.length + 1 + 1)) > (1 : Int)) = true :=
      (Go.len_gt_one _).trans (decide_eq_true (by omega))
    simp only [h1, h2, length_cons, Bool.false_eq_true, if_false, if_true, PermLemmas.importsMain]
    generalize e1 :: e2 :: rest = fl at hfl
    rw [Go.range_sorted fl pathLe (fun _ _ => rfl) _ (fun e => importSpec cfg.isPrint e ++ [10])]
    · simp only [append_assoc]
    · intro e he
      simp only [Go.getDef_of_mem hfl he, importSpec]
      split <;> simp

/-- TRANSFER (C04/C19 stated about the code as written): in every state that satisfies the
    registry invariant, the TRANSLATED renderImports prints exactly the model's import block -/
theorem renderImports_src_of_inv (tl : Str → Str) (ip : Nat → Bool) (f : FileS) (out : Str)
    (hI : RegistryInv.Inv (cfgOf tl ip) f) :
    Gen.Src.renderImports (cfgOf tl ip) f out = out ++ renderImports ip f :=
  renderImports_src_eq_model (cfgOf tl ip) f out hI.keysDistinct

end

/-! the two ties once more, under the names `Tie.ImportsSrc.*` -/
namespace ImportsSrc

theorem comment_render_eq (cfg : Cfg) (c : Str) (f : FileS) (o : Str) :
    Gen.Src.comment_render cfg c f o = o ++ renderComment c := Tie.comment_render_eq cfg c f o

theorem renderImports_eq' (cfg : Cfg) (f : FileS) (out : Str)
    (hk : (f.imports.map (·.1)).Nodup) :
    Gen.Src.renderImports cfg f out = out ++ renderImports cfg.isPrint f :=
  renderImports_src_eq_model cfg f out hk

end ImportsSrc

#print axioms Tie.ImportsSrc.renderImports_eq'

def exCfg : Cfg := { toLower := id, isPrint := fun _ => true, reserved := [], stdHints := [] }

/-- three imports, one of them `"C"` with a cgo preamble: two remain in the block -/
def exFile : FileS :=
  { imports := [(b!"fmt", ⟨b!"fmt", false⟩), (b!"C", ⟨b!"C", false⟩), (b!"a/b", ⟨b!"x", true⟩)],
    cgo := [b!"#include <stdio.h>"] }

/-- the hypotheses of `renderImports_src_eq_model` are satisfiable -/
example : Gen.Src.renderImports exCfg exFile b!"package p\n\n"
    = b!"package p\n\n" ++ renderImports exCfg.isPrint exFile :=
  renderImports_src_eq_model exCfg exFile _ (by decide)

/- Both sides computed on the concrete state.  `List.mergeSort` is defined by well-founded
   recursion, which `decide` cannot evaluate; `simp` unfolds the sort, `decide +kernel` evaluates
   the rest (`Quote.quote`, …). -/
example : Gen.Src.renderImports exCfg exFile b!"package p\n\n"
    = b!"package p\n\nimport (\nx \"a/b\"\n\"fmt\"\n)\n\n// #include <stdio.h>\nimport \"C\"\n\n" := by
  simp [Gen.Src.renderImports, Gen.Src.comment_render, exFile, exCfg, Go.getDef, AList.lookup,
    AList.insert, Go.sortStrings, List.mergeSort, List.MergeSort.Internal.splitInTwo, Str.le]
  decide +kernel

example : b!"package p\n\n" ++ renderImports exCfg.isPrint exFile
    = b!"package p\n\nimport (\nx \"a/b\"\n\"fmt\"\n)\n\n// #include <stdio.h>\nimport \"C\"\n\n" := by
  simp [renderImports, importSpec, pathLe, commentLines, exFile, exCfg, List.mergeSort,
    List.MergeSort.Internal.splitInTwo, Str.le]
  decide +kernel

/-- a single import next to `"C"`: no sorting involved, both sides evaluate in the kernel -/
def exFile1 : FileS :=
  { imports := [(b!"C", ⟨b!"C", false⟩), (b!"a/b", ⟨b!"x", true⟩)], cgo := [b!"#include <stdio.h>"] }

example : Gen.Src.renderImports exCfg exFile1 b!"package p\n\n"
    = b!"package p\n\n" ++ renderImports exCfg.isPrint exFile1 := by decide +kernel

end Tie
