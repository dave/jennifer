import JenVerif.Tie.RenderSrc
/-
  Tie 1b: the render method of Dict (jen/dict.go).
  `Gen.Src.Dict_render` is the translation of `Dict.render`.  For every recursion parameter that is the model on the
  keys and values (`Agrees`; with `modelRec` itself: `Dict_render_eq`) it computes what the model says about a `.dict`
  node: `none` when `misusePairs` holds, otherwise the accumulated output followed by `renderDictWith`'s text, and its
  state.
  The two loop bodies are restated (`dStep1`, `dStep2`; equal to the generated text by `rfl`).  The first fold is
  related to `loop1P`, which is `dictLoop1` on the pairs themselves; sorting commutes with the projection to the model's
  triples (`List.map_mergeSort`); the second fold is related to `dictLoop2`.  Along the states reached (`Refine.Ext`)
  the null-path test is the same function, so null-ness and misuse of the kept pairs are those at the start.
-/
namespace Tie
open Code Refine

/-- the tuples collected by the first loop of `Dict.render`: key text, value text, key, value -/
abbrev KV := Str × Str × Code × Code

def entOf (cfg : Cfg) (k v : Code) : DEntry FileS :=
  { kNull := fun np => isNull np k, vNull := fun np => isNull np v,
    kR := fun f => renderS cfg f none k, vR := fun f => renderS cfg f none v }

def tupOf (cfg : Cfg) (t : KV) : Str × Str × DEntry FileS := (t.1, t.2.1, entOf cfg t.2.2.1 t.2.2.2)

/-- `dictLoop1` restated over the pairs themselves -/
def loop1P (cfg : Cfg) : FileS → List (Code × Code) → List KV × FileS
  | f, [] => ([], f)
  | f, (k, v) :: ps =>
    if isNull f.np k || isNull f.np v then loop1P cfg f ps
    else
      (((renderS cfg f none k).1, (renderS cfg (renderS cfg f none k).2 none v).1, k, v) ::
        (loop1P cfg (renderS cfg (renderS cfg f none k).2 none v).2 ps).1,
      (loop1P cfg (renderS cfg (renderS cfg f none k).2 none v).2 ps).2)

theorem dictEntriesS_cons (cfg : Cfg) (k v : Code) (ps : List (Code × Code)) :
    dictEntriesS cfg ((k, v) :: ps) = entOf cfg k v :: dictEntriesS cfg ps := by
  rw [dictEntriesS]
  rfl

theorem dictLoop1_entries (cfg : Cfg) : ∀ (ps : List (Code × Code)) (f : FileS),
    dictLoop1 FileS.np f (dictEntriesS cfg ps) = ((loop1P cfg f ps).1.map (tupOf cfg), (loop1P cfg f ps).2)
  | [], f => by simp [dictEntriesS, dictLoop1, loop1P]
  | (k, v) :: ps, f => by
      rw [dictEntriesS_cons, dictLoop1, loop1P]
      simp only [entOf]
      by_cases hn : (isNull f.np k || isNull f.np v) = true
      · simp only [hn, if_true]
        exact dictLoop1_entries cfg ps f
      · simp only [hn, if_false, Bool.false_eq_true]
        rw [dictLoop1_entries cfg ps _]
        rfl

theorem sortKV_map (cfg : Cfg) (l : List KV) :
    (l.map (tupOf cfg)).mergeSort dictKeyLe = (Go.sortKV l).map (tupOf cfg) :=
  (List.map_mergeSort (r := Go.kvLe) (s := dictKeyLe) (f := tupOf cfg) (fun _ _ _ _ => rfl)).symm

theorem renderDict_loop1P (cfg : Cfg) (f : FileS) (ps : List (Code × Code)) :
    renderDictWith FileS.np f (dictEntriesS cfg ps) =
      dictLoop2 (Go.sortKV (loop1P cfg f ps).1).length true (loop1P cfg f ps).2
        ((Go.sortKV (loop1P cfg f ps).1).map (tupOf cfg)) := by
  unfold renderDictWith
  simp only [dictLoop1_entries, sortKV_map, List.length_map]

/-- what the first loop establishes about a collected tuple (when no kept pair is misused) -/
def Kept (np : Str → Bool) (t : KV) : Prop :=
  isNull np t.2.2.1 = false ∧ isNull np t.2.2.2 = false ∧
  misuse np t.2.2.1 = false ∧ misuse np t.2.2.2 = false

theorem loop1P_mem (cfg : Cfg) : ∀ (ps : List (Code × Code)) (f : FileS),
    ∀ t ∈ (loop1P cfg f ps).1, (t.2.2.1, t.2.2.2) ∈ ps
  | [], f, t, h => by simp [loop1P] at h
  | (k, v) :: ps, f, t, h => by
      rw [loop1P] at h
      split at h
      · exact List.mem_cons_of_mem _ (loop1P_mem cfg ps f t h)
      · rcases List.mem_cons.1 h with rfl | h
        · exact List.mem_cons_self ..
        · exact List.mem_cons_of_mem _ (loop1P_mem cfg ps _ t h)

theorem loop1P_facts (cfg : Cfg) : ∀ (ps : List (Code × Code)) (f : FileS), Good cfg f →
    Ext f (loop1P cfg f ps).2 ∧
    (misusePairs f.np ps = false → ∀ t ∈ (loop1P cfg f ps).1, Kept f.np t)
  | [], f, _ => by simp [loop1P, Ext.refl]
  | (k, v) :: ps, f, hg => by
      rw [loop1P, misusePairs]
      cases hn : (isNull f.np k || isNull f.np v) with
      | true =>
        simp only [if_true, Bool.not_true, Bool.false_and, Bool.false_or]
        exact loop1P_facts cfg ps f hg
      | false =>
        obtain ⟨hkn, hvn⟩ := Bool.or_eq_false_iff.mp hn
        have he1 := Frame.renderS_ext cfg f none k hg
        have he02 := he1.trans (Frame.renderS_ext cfg _ none v (good_of_ext hg he1))
        have ih := loop1P_facts cfg ps _ (good_of_ext hg he02)
        simp only [Bool.false_eq_true, if_false, Bool.not_false, Bool.true_and]
        refine ⟨he02.trans ih.1, ?_⟩
        intro hm t ht
        obtain ⟨hmkv, hmp⟩ := Bool.or_eq_false_iff.mp hm
        obtain ⟨hmk, hmv⟩ := Bool.or_eq_false_iff.mp hmkv
        rcases List.mem_cons.1 ht with rfl | h
        · exact ⟨hkn, hvn, hmk, hmv⟩
        · rw [← he02.np_eq] at hmp ⊢
          exact ih.2 hmp t h

/-- body of the first loop of `Dict.render` -/
def dStep1 (r : Go.Rec) (st : FileS × List KV) (kv : Code × Code) : Option (FileS × List KV) :=
  if r.null st.1 kv.1 || r.null st.1 kv.2 then some (st.1, st.2)
  else
    match r.render st.1 [] none kv.1 with
    | none => none
    | some t60 =>
      match r.render t60.2 [] none kv.2 with
      | none => none
      | some t61 => some (t61.2, st.2 ++ [(t60.1, t61.1, kv.1, kv.2)])

/-- body of the second loop of `Dict.render` (`n` : number of kept pairs) -/
def dStep2 (r : Go.Rec) (n : Nat) (st : FileS × Bool × Str) (key : KV) : Option (FileS × Bool × Str) :=
  match r.render st.1
      (if st.2.1 && decide ((Int.ofNat n) > (1 : Int)) then (false, st.2.2 ++ ([10] : Str)) else (st.2.1, st.2.2)).2
      none key.2.2.1 with
  | none => none
  | some t65 =>
    match r.render t65.2 (t65.1 ++ b!":") none key.2.2.2 with
    | none => none
    | some t66 =>
      some (t66.2,
        (if st.2.1 && decide ((Int.ofNat n) > (1 : Int)) then (false, st.2.2 ++ ([10] : Str)) else (st.2.1, st.2.2)).1,
        if decide ((Int.ofNat n) > (1 : Int)) then t66.1 ++ ([44, 10] : Str) else t66.1)

def fin2 : Option (FileS × Bool × Str) → Option (Str × FileS)
  | none => none
  | some t => some (t.2.2, t.1)

def dictFin (r : Go.Rec) (w : Str) : Option (FileS × List KV) → Option (Str × FileS)
  | none => none
  | some t => fin2 (Go.foldOpt (dStep2 r (Go.sortKV t.2).length) (t.1, true, w) (Go.sortKV t.2))

theorem Dict_render_shape (cfg : Cfg) (r : Go.Rec) (f : FileS) (ps : List (Code × Code)) (w : Str) :
    Gen.Src.Dict_render cfg r ps f w =
      dictFin r w (Go.foldOpt (dStep1 r) (f, []) ps) := rfl

theorem fold1 (cfg : Cfg) {r : Go.Rec} {S : Code → Prop} (ha : Agrees cfg r S) :
    ∀ (ps : List (Code × Code)) (f : FileS) (keys : List KV), (∀ kv ∈ ps, S kv.1 ∧ S kv.2) → Good cfg f →
    Go.foldOpt (dStep1 r) (f, keys) ps =
      if misusePairs f.np ps then none
      else some ((loop1P cfg f ps).2, keys ++ (loop1P cfg f ps).1)
  | [], f, keys, _, _ => by simp [Go.foldOpt, misusePairs, loop1P]
  | (k, v) :: ps, f, keys, hS, hg => by
      have hkv := hS (k, v) (List.mem_cons_self ..)
      have hS' : ∀ kv ∈ ps, S kv.1 ∧ S kv.2 := fun kv h => hS kv (List.mem_cons_of_mem _ h)
      rw [Go.foldOpt, loop1P, misusePairs]
      simp only [dStep1, ha.null k hkv.1, ha.null v hkv.2]
      cases hn : (isNull f.np k || isNull f.np v) with
      | true =>
        simp only [if_true, Bool.not_true, Bool.false_and, Bool.false_or]
        exact fold1 cfg ha ps f keys hS' hg
      | false =>
        obtain ⟨hkn, hvn⟩ := Bool.or_eq_false_iff.mp hn
        have he1 := Frame.renderS_ext cfg f none k hg
        have hg1 := good_of_ext hg he1
        have he02 := he1.trans (Frame.renderS_ext cfg _ none v hg1)
        simp only [Bool.false_eq_true, if_false, Bool.not_false, Bool.true_and,
          ha.render k hkv.1 _ _ _ hg hkn, modelRec]
        cases misuse f.np k with
        | true => simp
        | false =>
          simp only [Bool.false_eq_true, if_false, Bool.false_or, List.nil_append,
            ha.render v hkv.2 _ _ _ hg1 ((isNull_ext he1 v).trans hvn), modelRec]
          rw [he1.np_eq]
          cases misuse f.np v with
          | true => simp
          | false =>
            simp only [Bool.false_eq_true, if_false, Bool.false_or]
            rw [fold1 cfg ha ps _ _ hS' (good_of_ext hg he02), he02.np_eq]
            simp [List.append_assoc]

theorem fold2 (cfg : Cfg) {r : Go.Rec} {S : Code → Prop} (ha : Agrees cfg r S) (n : Nat) :
    ∀ (ts : List KV) (f : FileS) (first : Bool) (w : Str), Good cfg f →
    (∀ t ∈ ts, Kept f.np t ∧ S t.2.2.1 ∧ S t.2.2.2) →
    fin2 (Go.foldOpt (dStep2 r n) (f, first, w) ts) =
      some (w ++ (dictLoop2 n first f (ts.map (tupOf cfg))).1, (dictLoop2 n first f (ts.map (tupOf cfg))).2)
  | [], f, first, w, _, _ => by simp [Go.foldOpt, fin2, dictLoop2]
  | t :: ts, f, first, w, hg, hall => by
      obtain ⟨⟨hkn, hvn, hmk, hmv⟩, hSk, hSv⟩ := hall t (by simp)
      have he1 := Frame.renderS_ext cfg f none t.2.2.1 hg
      have hg1 := good_of_ext hg he1
      have he02 := he1.trans (Frame.renderS_ext cfg _ none t.2.2.2 hg1)
      have ih := fun first' w' => fold2 cfg ha n ts _ first' w' (good_of_ext hg he02)
        (fun t' ht' => by rw [he02.np_eq]; exact hall t' (List.mem_cons_of_mem _ ht'))
      rw [Go.foldOpt, List.map_cons, dictLoop2]
      simp only [dStep2, ha.render _ hSk _ _ _ hg hkn, modelRec, hmk, Bool.false_eq_true, if_false,
        ha.render _ hSv _ _ _ hg1 ((isNull_ext he1 _).trans hvn), he1.np_eq, hmv, tupOf, entOf]
      rw [ih, Go.len_gt_one]
      by_cases hn : n > 1
      · cases first <;> simp [hn, List.append_assoc]
      · simp only [hn, decide_false, Bool.and_false, Bool.false_eq_true, if_false]
        rw [dictLoop2_first n hn first]
        simp [List.append_assoc]

theorem Dict_render_agrees (cfg : Cfg) {r : Go.Rec} {S : Code → Prop} (ha : Agrees cfg r S)
    (ps : List (Code × Code)) (hS : ∀ kv ∈ ps, S kv.1 ∧ S kv.2) (f : FileS) (hg : Good cfg f) (w : Str)
    (prev : Option Code) :
    Gen.Src.Dict_render cfg r ps f w = (modelRec cfg).render f w prev (.dict ps) := by
  rw [Dict_render_shape, fold1 cfg ha ps f [] hS hg]
  show _ = if misusePairs f.np ps then none
    else some (w ++ (renderDictWith FileS.np f (dictEntriesS cfg ps)).1,
      (renderDictWith FileS.np f (dictEntriesS cfg ps)).2)
  cases hm : misusePairs f.np ps with
  | true => rfl
  | false =>
    have facts := loop1P_facts cfg ps f hg
    have hall : ∀ t ∈ Go.sortKV (loop1P cfg f ps).1,
        Kept (loop1P cfg f ps).2.np t ∧ S t.2.2.1 ∧ S t.2.2.2 := by
      intro t ht
      have ht' : t ∈ (loop1P cfg f ps).1 := List.mem_mergeSort.mp ht
      rw [facts.1.np_eq]
      exact ⟨facts.2 hm t ht', hS _ (loop1P_mem cfg ps f t ht')⟩
    simp only [Bool.false_eq_true, if_false, dictFin, List.nil_append]
    rw [fold2 cfg ha _ _ _ true w (good_of_ext hg facts.1) hall, renderDict_loop1P]

theorem Dict_render_eq (cfg : Cfg) (f : FileS) (hg : Good cfg f) (ps : List (Code × Code)) (w : Str) :
    Gen.Src.Dict_render cfg (modelRec cfg) ps f w = (modelRec cfg).render f w none (.dict ps) :=
  Dict_render_agrees cfg (agrees_model cfg) ps (fun _ _ => ⟨trivial, trivial⟩) f hg w none

/-- the same, with the model side spelled out -/
theorem Dict_render_eq' (cfg : Cfg) (f : FileS) (hg : Good cfg f) (ps : List (Code × Code)) (w : Str) :
    Gen.Src.Dict_render cfg (modelRec cfg) ps f w =
      if misusePairs f.np ps then none
      else some (w ++ (renderDictWith FileS.np f (dictEntriesS cfg ps)).1,
        (renderDictWith FileS.np f (dictEntriesS cfg ps)).2) :=
  Dict_render_eq cfg f hg ps w

/-- the hypothesis `Good cfg f` is satisfiable (by every state passing the hint guard) -/
example : ∃ cfg f, Good cfg f :=
  ⟨RegistryInv.cfg0, RegistryInv.f0, RegistryGood.good_of_hintsOk RegistryInv.hintsOk_f0 RegistryInv.stdOk_cfg0⟩

#print axioms Tie.Dict_render_eq

end Tie
