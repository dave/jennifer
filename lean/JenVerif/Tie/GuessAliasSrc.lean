import JenVerif.Gen.SrcRegistry
import JenVerif.Tie.GoLemmas
/-
  Tie 1b for `guessAlias`: the function TRANSLATED from jen/file.go (Gen.Src.guessAlias, over the
  Go primitives of GoPrim.lean and the parameter `Go.Lib`) equals the hand-written model
  `Registry.guessAlias`, for every byte string, every `cfg.toLower`, and every library satisfying
  the documented ASCII behaviour `Go.Lib.AsciiOk`, as soon as the loop fuel is at least `guessFuel`.
-/
namespace Tie
open Registry
open Go (isPrefixOf_single hasSuffix_single)

theorem slice_dropLast (s : Str) : Go.slice s (0 : Int) ((Int.ofNat s.length) - (1 : Int)) = s.dropLast := by
  unfold Go.slice
  have h : (Int.ofNat s.length - 1).toNat = s.length - 1 := by
    show ((s.length : Int) - 1).toNat = s.length - 1
    omega
  rw [h, List.dropLast_eq_take]
  simp

theorem slice_to_len (s : Str) (k : Nat) : Go.slice s (Int.ofNat k) (Int.ofNat s.length) = s.drop k := by
  unfold Go.slice
  simp

theorem isPrefixOf_slash_cons (c : UInt8) (cs : Str) : Str.isPrefixOf [47] (c :: cs) = (c == 47) := by
  rw [isPrefixOf_single]
  simp

theorem lastElem_noSub (s acc : Str) (h : Str.hasSub s [47] = false) : lastElem acc s = acc ++ s := by
  induction s generalizing acc with
  | nil => simp [lastElem]
  | cons c cs ih =>
    unfold Str.hasSub at h
    rw [isPrefixOf_slash_cons, Bool.or_eq_false_iff] at h
    unfold lastElem
    rw [if_neg (by simp [h.1]), ih _ h.2]
    simp

theorem lastIndexFrom_noSub (s : Str) (i : Nat) (acc : Int) (h : Str.hasSub s [47] = false) :
    Go.lastIndexFrom [47] s i acc = acc := by
  induction s generalizing i acc with
  | nil => simp [Go.lastIndexFrom]
  | cons c cs ih =>
    unfold Str.hasSub at h
    rw [isPrefixOf_slash_cons, Bool.or_eq_false_iff] at h
    unfold Go.lastIndexFrom
    rw [isPrefixOf_slash_cons, ih _ _ h.2]
    simp [h.1]

theorem lastIndexFrom_sub (s : Str) (i : Nat) (acc : Int) (acc' : Str) (h : Str.hasSub s [47] = true) :
    ∃ k : Nat, Go.lastIndexFrom [47] s i acc = Int.ofNat (i + k) ∧ s.drop (k + 1) = lastElem acc' s := by
  induction s generalizing i acc acc' with
  | nil => simp [Str.hasSub] at h
  | cons c cs ih =>
    unfold Str.hasSub at h
    rw [isPrefixOf_slash_cons] at h
    unfold Go.lastIndexFrom lastElem
    rw [isPrefixOf_slash_cons]
    cases hs : Str.hasSub cs [47] with
    | true =>
      -- both functions pass on an `if c == '/'` of their accumulators: one instance of the hypothesis
      obtain ⟨k, h1, h2⟩ := ih (i + 1) (if (c == 47) = true then Int.ofNat i else acc)
        (if (c == 47) = true then [] else acc' ++ [c]) hs
      refine ⟨k + 1, ?_, ?_⟩
      · rw [h1]; congr 1; omega
      · rw [List.drop_succ_cons, h2]; split <;> rfl
    | false =>
      rw [hs, Bool.or_false] at h
      refine ⟨0, ?_, ?_⟩
      · simp only [h, if_true]
        rw [lastIndexFrom_noSub _ _ _ hs]; rfl
      · simp only [h, if_true]
        rw [lastElem_noSub _ _ hs]; simp

/-- `if strings.Contains(a, "/") { a = a[strings.LastIndex(a, "/")+1:] }` -/
theorem lastSeg_eq (a : Str) :
    (if Str.hasSub a [47] then Go.slice a ((Go.lastIndex a [47]) + (1 : Int)) (Int.ofNat a.length) else a)
      = lastElem [] a := by
  cases h : Str.hasSub a [47] with
  | false => rw [if_neg Bool.false_ne_true, lastElem_noSub _ _ h]; rfl
  | true =>
    obtain ⟨k, h1, h2⟩ := lastIndexFrom_sub a 0 (-1) [] h
    have e : Int.ofNat (0 + k) + 1 = Int.ofNat (k + 1) := by
      show ((0 + k : Nat) : Int) + 1 = ((k + 1 : Nat) : Int)
      omega
    rw [if_pos rfl, Go.lastIndex, h1, e, slice_to_len, h2]

theorem lowerAlnum_ascii (b : UInt8) (h : isLowerAlnum b = true) : b.toNat < 128 := by
  simp only [isLowerAlnum, Bool.or_eq_true, Bool.and_eq_true, decide_eq_true_eq,
    UInt8.le_iff_toNat_le, UInt8.reduceToNat] at h
  omega

theorem isDigit_toNat (b : UInt8) : (decide (48 ≤ b.toNat) && decide (b.toNat ≤ 57)) = isDigit b := by
  simp only [isDigit, UInt8.le_iff_toNat_le, UInt8.reduceToNat]

/-- `for r, n := utf8.DecodeRuneInString(s); unicode.IsDigit(r); r, n = utf8.DecodeRuneInString(s)
    { s = s[n:] }` on an ASCII string, condition `c` and body `b` given by their equations: every round
    removes one byte, so `|s| + 1` rounds reach the end of the loop -/
theorem digitLoop (lib : Go.Lib) (hl : lib.AsciiOk)
    (c : Str × Int × Int → Bool) (b : Str × Int × Int → Str × Int × Int)
    (hc : ∀ t, c t = lib.isDigitRune t.2.1)
    (hb : ∀ t, b t = (Go.slice t.1 t.2.2 (Int.ofNat t.1.length),
                      (lib.decodeRune (Go.slice t.1 t.2.2 (Int.ofNat t.1.length))).1,
                      (lib.decodeRune (Go.slice t.1 t.2.2 (Int.ofNat t.1.length))).2))
    (s : Str) (hs : ∀ x ∈ s, x.toNat < 128) (fuel : Nat) (hf : s.length + 1 ≤ fuel) :
    (Go.loop fuel c b (s, (lib.decodeRune s).1, (lib.decodeRune s).2)).1 = s.dropWhile isDigit := by
  induction s generalizing fuel with
  | nil =>
    cases fuel with
    | zero => simp at hf
    | succ n =>
      unfold Go.loop
      rw [hc, hl.decode_empty]
      simp [hl.digit_error]
  | cons x xs ih =>
    cases fuel with
    | zero => simp at hf
    | succ n =>
      have hx : x.toNat < 128 := hs x (by simp)
      unfold Go.loop
      rw [hc, hb, hl.decode_ascii x xs hx]
      simp only []
      rw [hl.digit_ascii _ hx, isDigit_toNat, List.dropWhile_cons]
      cases hd : isDigit x with
      | false => simp
      | true =>
        simp only [if_true]
        rw [show Go.slice (x :: xs) 1 (Int.ofNat (x :: xs).length) = xs from slice_to_len (x :: xs) 1]
        exact ih (fun y hy => hs y (by simp [hy])) n (by simp at hf; omega)

/-- the string that reaches the digit-stripping loop, before the regexp filter -/
def guessMid (cfg : Cfg) (p : Str) : Str :=
  cfg.toLower (lastElem [] (if p.getLast? == some 47 then p.dropLast else p))

/-- fuel that suffices for the digit-stripping loop of guessAlias -/
def guessFuel (cfg : Cfg) (p : Str) : Nat := (guessMid cfg p).length + 1

theorem guessAlias_eq (cfg : Cfg) (lib : Go.Lib) (hl : lib.AsciiOk) (p : Str) (fuel : Nat)
    (hf : guessFuel cfg p ≤ fuel) :
    Gen.Src.guessAlias cfg lib fuel p = Registry.guessAlias cfg.toLower p := by
  unfold Gen.Src.guessAlias Registry.guessAlias
  simp only [hasSuffix_single, slice_dropLast, lastSeg_eq, Go.removeNotLowerAlnum, List.beq_nil_eq]
  rw [digitLoop lib hl _ _ (fun _ => rfl) (fun _ => rfl)]
  · intro x hx
    exact lowerAlnum_ascii x (List.mem_filter.mp hx).2
  · have := List.length_filter_le isLowerAlnum (guessMid cfg p)
    unfold guessFuel at hf
    unfold guessMid at this hf
    omega

example : Go.Lib.ascii.AsciiOk where
  decode_empty := rfl
  decode_ascii := by intro b s h; simp [Go.Lib.ascii, h]
  digit_ascii := by
    intro n _
    have h1 : decide ((48 : Int) ≤ (n : Int)) = decide (48 ≤ n) := decide_eq_decide.mpr (by omega)
    have h2 : decide ((n : Int) ≤ (57 : Int)) = decide (n ≤ 57) := decide_eq_decide.mpr (by omega)
    show (decide ((48 : Int) ≤ (n : Int)) && decide ((n : Int) ≤ (57 : Int))) = _
    rw [h1, h2]
  digit_error := by decide

end Tie

#print axioms Tie.guessAlias_eq
