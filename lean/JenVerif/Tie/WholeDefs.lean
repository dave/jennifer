import JenVerif.Tie.DictSrc
/-
  Tie 1b, capstone — tying the knot.  The node-level theorems of NullSrc / RenderSrc / DictSrc are
  stated for every recursion parameter that agrees with the MODEL on the children (`Tie.Agrees`; the
  `…_eq` theorems are the instance "the model satisfies the code's equations").
  Here the recursion is closed on the code side: `srcRec cfg n` is the null test and the renderer
  ASSEMBLED FROM THE TRANSLATED GO METHODS, dispatching on the constructor of `Code` exactly as Go
  dispatches on the dynamic type, with `n` levels of nesting allowed (Go's recursion is structural
  on the finite tree).  NO leaf is hand-modelled any more: tokens and literals (`.tok` / `.lit`) go
  through the translated `token.render` (`Gen.Src.token_render`, tied to the model by
  `Tie.token_render_eq` in TokenSrc.lean; its fmt/strconv verbs are the primitives of GoPrim.lean),
  tags and comments through the translated `tag.render` / `comment.render`.  `f.register` is the
  model's `register`, tied to the translated one by `Tie.register_src_eq_model`.
-/
namespace Tie
open Code

def typOf : TokKind → Go.TokTyp
  | .pkg => .packageToken
  | .ident => .identifierToken
  | .kw => .keywordToken
  | .op => .operatorToken
  | .delim => .delimiterToken
  | .layout => .layoutToken
  | .null => .nullToken

mutual
/-- nesting depth of a tree -/
def depth : Code → Nat
  | .group _ items => depthL items + 1
  | .stmt items => depthL items + 1
  | .dict ps => depthP ps + 1
  | _ => 0
def depthL : List Code → Nat
  | [] => 0
  | c :: cs => max (depth c) (depthL cs)
def depthP : List (Code × Code) → Nat
  | [] => 0
  | (k, v) :: ps => max (max (depth k) (depth v)) (depthP ps)
end

/-- the Code interface's two methods, implemented by the TRANSLATED Go methods, `n` levels deep -/
def srcRec (cfg : Cfg) : Nat → Go.Rec
  | 0 => { null := fun _ _ => true, render := fun _ _ _ _ => none, register := Registry.register cfg }
  | n + 1 =>
    { null := fun f c => match c with
        | .nilc => true
        | .tok k s => Gen.Src.token_isNull cfg (typOf k) s f
        | .lit _ => Gen.Src.token_isNull cfg .literalToken [] f
        | .group g items => Gen.Src.Group_isNull cfg (srcRec cfg n).null g items f
        | .stmt items => Gen.Src.Statement_isNull cfg (srcRec cfg n).null items f
        | .dict ps => Gen.Src.Dict_isNull cfg (srcRec cfg n).null ps f
        | .tag t => Gen.Src.tag_isNull cfg t f
        | .comment t => Gen.Src.comment_isNull cfg t f
      render := fun f w prev c => match c with
        | .nilc => some (w, f)
        | .group g items => Gen.Src.Group_render cfg (srcRec cfg n) g items f w prev
        | .stmt items => Gen.Src.Statement_render cfg (srcRec cfg n) items f w
        | .dict ps => Gen.Src.Dict_render cfg (srcRec cfg n) ps f w
        | .tag t => some (Gen.Src.tag_render cfg t f w, f)
        | .comment t => some (Gen.Src.comment_render cfg t f w, f)
        | .tok k s => Gen.Src.token_render cfg (srcRec cfg n) (Go.tokTyp (.tok k s)) (Go.dynOf (.tok k s)) f w
        | .lit v => Gen.Src.token_render cfg (srcRec cfg n) (Go.tokTyp (.lit v)) (Go.dynOf (.lit v)) f w
      register := Registry.register cfg }

end Tie
