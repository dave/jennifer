import JenVerif.Tie.WholeDefs
import JenVerif.Tie.TextSrc
import JenVerif.Tie.TokenSrc
/-
  Tie 1b, capstone: the knot tied.  `srcRec cfg n` (WholeDefs.lean) is the null test and the renderer ASSEMBLED FROM THE
  TRANSLATED GO METHODS, `n` levels deep.  Here: on every tree of depth `< n` it is the model (`Code.isNull`,
  `modelRec cfg` = `Code.renderS` + `Code.misuse`).
  Induction on `n`.  The node-level theorems (NullSrc / RenderSrc / DictSrc) say what each translated method computes
  for ANY recursion parameter that is the model on the children of the node (`Agrees`: the null test everywhere,
  `render` on non-null children at `Good` states); the induction hypothesis is exactly that for `srcRec cfg n`.
  Leaves: TextSrc / TokenSrc.
-/
namespace Tie
open Code Refine

/-- congruence of `Go.foldOpt` under an invariant of the loop -/
theorem foldOpt_congr {σ α} (P : σ → Prop) (step step' : σ → α → Option σ) :
    ∀ (xs : List α) (s : σ), P s →
    (∀ x ∈ xs, ∀ s, P s → step s x = step' s x) →
    (∀ x ∈ xs, ∀ s s', P s → step' s x = some s' → P s') →
    Go.foldOpt step s xs = Go.foldOpt step' s xs
  | [], s, _, _, _ => rfl
  | x :: xs, s, hP, h1, h2 => by
    unfold Go.foldOpt
    rw [h1 x (by simp) s hP]
    cases h : step' s x with
    | none => rfl
    | some s' =>
      exact foldOpt_congr P step step' xs s' (h2 x (by simp) s s' hP h)
        (fun y hy => h1 y (by simp [hy])) (fun y hy => h2 y (by simp [hy]))

theorem depth_le_of_mem {c : Code} : ∀ {items : List Code}, c ∈ items → depth c ≤ depthL items
  | [], h => by cases h
  | d :: ds, h => by
    rw [depthL]
    rcases List.mem_cons.1 h with rfl | h'
    · exact Nat.le_max_left _ _
    · exact Nat.le_trans (depth_le_of_mem h') (Nat.le_max_right _ _)

theorem depth_le_of_memP {k v : Code} : ∀ {ps : List (Code × Code)}, (k, v) ∈ ps →
    depth k ≤ depthP ps ∧ depth v ≤ depthP ps
  | [], h => by cases h
  | (k', v') :: ps, h => by
    rw [depthP]
    rcases List.mem_cons.1 h with e | h'
    · cases e
      exact ⟨Nat.le_trans (Nat.le_max_left _ _) (Nat.le_max_left _ _),
        Nat.le_trans (Nat.le_max_right _ _) (Nat.le_max_left _ _)⟩
    · have := depth_le_of_memP h'
      exact ⟨Nat.le_trans this.1 (Nat.le_max_right _ _), Nat.le_trans this.2 (Nat.le_max_right _ _)⟩

mutual
/-- the tags of a tree are Go maps: their keys are distinct -/
def TagsOk : Code → Prop
  | .group _ items => TagsOkL items
  | .stmt items => TagsOkL items
  | .dict ps => TagsOkP ps
  | .tag t => (t.map (·.1)).Nodup
  | _ => True
def TagsOkL : List Code → Prop
  | [] => True
  | c :: cs => TagsOk c ∧ TagsOkL cs
def TagsOkP : List (Code × Code) → Prop
  | [] => True
  | (k, v) :: ps => TagsOk k ∧ TagsOk v ∧ TagsOkP ps
end

theorem tagsOk_of_mem {c : Code} : ∀ {items : List Code}, TagsOkL items → c ∈ items → TagsOk c
  | [], _, h => by cases h
  | d :: ds, ht, h => by
    rw [TagsOkL] at ht
    rcases List.mem_cons.1 h with rfl | h'
    · exact ht.1
    · exact tagsOk_of_mem ht.2 h'

theorem tagsOk_of_memP {k v : Code} : ∀ {ps : List (Code × Code)}, TagsOkP ps → (k, v) ∈ ps →
    TagsOk k ∧ TagsOk v
  | [], _, h => by cases h
  | (k', v') :: ps, ht, h => by
    rw [TagsOkP] at ht
    rcases List.mem_cons.1 h with e | h'
    · cases e
      exact ⟨ht.1, ht.2.1⟩
    · exact tagsOk_of_memP ht.2.2 h'

theorem kindOf_typOf (k : TokKind) : kindOf (typOf k) = some k := by cases k <;> rfl

/-- the null test assembled from the six translated isNull methods is the model's -/
theorem srcRec_null (cfg : Cfg) (c : Code) (n : Nat) (hn : depth c < n) (f : FileS) :
    (srcRec cfg n).null f c = Code.isNull f.np c := by
  induction n generalizing c with
  | zero => exact absurd hn (Nat.not_lt_zero _)
  | succ n ih =>
    cases c with
    | nilc => simp [srcRec, isNull]
    | tok k s => exact token_isNull_eq cfg f (typOf k) k s (kindOf_typOf k)
    | lit v => exact token_isNull_lit cfg f .literalToken [] v (Or.inl rfl)
    | group g items =>
      rw [depth] at hn
      exact Group_isNull_agrees cfg _ f g items fun c hc =>
        ih c (Nat.lt_of_le_of_lt (depth_le_of_mem hc) (Nat.lt_of_succ_lt_succ hn))
    | stmt items =>
      rw [depth] at hn
      exact Statement_isNull_agrees cfg _ f items fun c hc =>
        ih c (Nat.lt_of_le_of_lt (depth_le_of_mem hc) (Nat.lt_of_succ_lt_succ hn))
    | dict ps =>
      rw [depth] at hn
      have hn := Nat.lt_of_succ_lt_succ hn
      exact Dict_isNull_agrees cfg _ f ps fun kv hkv =>
        have hd := depth_le_of_memP (k := kv.1) (v := kv.2) hkv
        ⟨ih kv.1 (Nat.lt_of_le_of_lt hd.1 hn), ih kv.2 (Nat.lt_of_le_of_lt hd.2 hn)⟩
    | tag t => exact tag_isNull_model cfg f t
    | comment t => exact comment_isNull_eq cfg f t

theorem srcRec_register (cfg : Cfg) : ∀ n, (srcRec cfg n).register = Registry.register cfg
  | 0 => rfl
  | _ + 1 => rfl

/-- strongest form: the only code on which the assembled renderer and the model differ is the
    empty tag (null in both; `tag.render` returns at once, the model's `renderS` would write an
    empty literal — it is never rendered, being null) -/
theorem srcRec_render_strong (cfg : Cfg) : ∀ (n : Nat) (c : Code), depth c < n → TagsOk c → c ≠ .tag [] →
    ∀ (f : FileS), Good cfg f → ∀ (w : Str) (prev : Option Code),
    (srcRec cfg n).render f w prev c = (modelRec cfg).render f w prev c
  | 0, _, hn, _, _, _, _, _, _ => absurd hn (Nat.not_lt_zero _)
  | n + 1, c, hn, ht, hc, f, hg, w, prev => by
    have ha : Agrees cfg (srcRec cfg n) (fun c => depth c < n ∧ TagsOk c) :=
      ⟨fun c hc f => srcRec_null cfg c n hc.1 f,
       fun c hc f w p hg hnn => srcRec_render_strong cfg n c hc.1 hc.2
         (by rintro rfl; simp [isNull] at hnn) f hg w p,
       srcRec_register cfg n⟩
    cases c with
    | nilc => simp [srcRec, modelRec, misuse, renderS]
    | tok k s => exact token_render_agrees cfg (srcRec_register cfg n) _ (Or.inl ⟨k, s, rfl⟩) f w prev
    | lit v => exact token_render_agrees cfg (srcRec_register cfg n) _ (Or.inr ⟨v, rfl⟩) f w prev
    | group g items =>
      rw [depth] at hn
      rw [TagsOk] at ht
      exact Group_render_agrees cfg ha g items
        (fun c hc => ⟨Nat.lt_of_le_of_lt (depth_le_of_mem hc) (Nat.lt_of_succ_lt_succ hn), tagsOk_of_mem ht hc⟩)
        f hg w prev
    | stmt items =>
      rw [depth] at hn
      rw [TagsOk] at ht
      exact Statement_render_agrees cfg ha items
        (fun c hc => ⟨Nat.lt_of_le_of_lt (depth_le_of_mem hc) (Nat.lt_of_succ_lt_succ hn), tagsOk_of_mem ht hc⟩)
        f hg w prev
    | dict ps =>
      rw [depth] at hn
      rw [TagsOk] at ht
      have hn := Nat.lt_of_succ_lt_succ hn
      exact Dict_render_agrees cfg ha ps (fun kv hkv =>
          have hd := depth_le_of_memP (k := kv.1) (v := kv.2) hkv
          have hto := tagsOk_of_memP (k := kv.1) (v := kv.2) ht hkv
          ⟨⟨Nat.lt_of_le_of_lt hd.1 hn, hto.1⟩, ⟨Nat.lt_of_le_of_lt hd.2 hn, hto.2⟩⟩) f hg w prev
    | tag t =>
      rw [TagsOk] at ht
      show some (Gen.Src.tag_render cfg t f w, f) = _
      rw [tag_render_eq cfg t f w ht]
      cases t with
      | nil => exact absurd rfl hc
      | cons x xs => simp [modelRec, misuse, renderS]
    | comment t =>
      show some (Gen.Src.comment_render cfg t f w, f) = _
      rw [comment_render_eq]
      simp [modelRec, misuse, renderS]

/-- the renderer assembled from the translated render methods is the model's: same bytes, same File
    state, `none` exactly when the model's `misuse` holds — for every tree, at any sufficient depth.
    Side condition: `c` is non-null, or a composite (Group / Statement / Dict, null or not). -/
theorem srcRec_render (cfg : Cfg) (c : Code) (n : Nat) (hn : depth c < n) (ht : TagsOk c) (f : FileS)
    (hc : Code.isNull f.np c = false ∨ (∃ g items, c = .group g items) ∨ (∃ items, c = .stmt items) ∨
      (∃ ps, c = .dict ps))
    (hg : Good cfg f) (w : Str) (prev : Option Code) :
    (srcRec cfg n).render f w prev c = (modelRec cfg).render f w prev c := by
  refine srcRec_render_strong cfg n c hn ht ?_ f hg w prev
  rintro rfl
  rcases hc with h | ⟨_, _, ⟨⟩⟩ | ⟨_, ⟨⟩⟩ | ⟨_, ⟨⟩⟩
  simp [isNull] at h

/-- in particular at the root of a File (`.group fileInfo items`) or of any Group / Statement,
    with exactly the nesting the tree has -/
theorem srcRec_render_group (cfg : Cfg) (g : GInfo) (items : List Code) (ht : TagsOk (.group g items))
    (f : FileS) (hg : Good cfg f) (w : Str) (prev : Option Code) :
    (srcRec cfg (depth (.group g items) + 1)).render f w prev (.group g items) =
      (modelRec cfg).render f w prev (.group g items) :=
  srcRec_render cfg _ _ (Nat.lt_succ_self _) ht f (Or.inr (Or.inl ⟨g, items, rfl⟩)) hg w prev

theorem srcRec_render_stmt (cfg : Cfg) (items : List Code) (ht : TagsOk (.stmt items))
    (f : FileS) (hg : Good cfg f) (w : Str) (prev : Option Code) :
    (srcRec cfg (depth (.stmt items) + 1)).render f w prev (.stmt items) =
      (modelRec cfg).render f w prev (.stmt items) :=
  srcRec_render cfg _ _ (Nat.lt_succ_self _) ht f (Or.inr (Or.inr (Or.inl ⟨items, rfl⟩))) hg w prev

#print axioms Tie.srcRec_null
#print axioms Tie.srcRec_render_strong
#print axioms Tie.srcRec_render

/-- for the examples (the hypotheses are satisfiable): a Statement holding a Group (with a package token and a
    tag), a Dict and an empty tag -/
def exTree : Code :=
  .stmt [
    .group ⟨b!"parens", b!"(", b!")", b!",", false⟩
      [.tok .pkg b!"fmt", .tok .ident b!"x", .tag [(b!"json", b!"a"), (b!"db", b!"b")], .tag []],
    .dict [(.lit (.str b!"k"), .stmt [.tok .ident b!"v", .comment b!"c"])],
    .nilc]

theorem exTree_depth : depth exTree < 4 := by decide

theorem exTree_tagsOk : TagsOk exTree := by
  simp only [exTree, TagsOk, TagsOkL, TagsOkP, and_true, true_and]
  decide

theorem good0 : Good RegistryInv.cfg0 RegistryInv.f0 :=
  RegistryGood.good_of_hintsOk RegistryInv.hintsOk_f0 RegistryInv.stdOk_cfg0

example (f : FileS) : (srcRec RegistryInv.cfg0 4).null f exTree = Code.isNull f.np exTree :=
  srcRec_null _ _ 4 exTree_depth f

example (w : Str) (prev : Option Code) :
    (srcRec RegistryInv.cfg0 4).render RegistryInv.f0 w prev exTree =
      (modelRec RegistryInv.cfg0).render RegistryInv.f0 w prev exTree :=
  srcRec_render _ _ 4 exTree_depth exTree_tagsOk _ (Or.inr (Or.inr (Or.inl ⟨_, rfl⟩))) good0 w prev

/-- the side condition also holds in its first form: the example tree is not null -/
example : Code.isNull RegistryInv.f0.np exTree = false := rfl

/-- and the rendering of the example succeeds (no misuse): the equation is between `some` values -/
example : ((srcRec RegistryInv.cfg0 4).render RegistryInv.f0 [] none exTree).isSome = true := by
  rw [srcRec_render _ _ 4 exTree_depth exTree_tagsOk _ (Or.inr (Or.inr (Or.inl ⟨_, rfl⟩))) good0]
  rfl

end Tie
