import JenVerif.Tie.Whole
import JenVerif.Tie.EntrySrc
/-
  Tie 1b: the entry points with the recursion closed on the CODE side.  `Tie/EntrySrc` proves the translated entry
  points equal to the model when the model itself is plugged in for the dynamic calls (`modelRec`).  Here the dynamic
  calls go to `srcRec cfg n`, the renderer ASSEMBLED FROM THE TRANSLATED GO METHODS (Tie/WholeDefs): of the hand-written
  model only `register` is left on the left-hand side (`srcRec`'s `register` is the model's; the translated one is tied
  to it separately, `register_src_eq_model`, for every sufficient fuel).  For every tree of depth < n, every File state
  inside the hint guard, every formatter, writer and filesystem: the translated File.Render / Save, Statement|Group .
  RenderWithFile / GoString, calling the translated render methods, calling the translated isNull methods, give the
  model's fileRender / fileSave / fragRender / fragGoString (same result, same effect trace, same File state unless the
  render stopped at the misuse error).
-/
namespace Tie
open Code Refine

/-- File.Render consults its recursion parameter once: to render the root group -/
theorem Render_rec_congr (cfg : Cfg) (r r' : Go.Rec) (w : World) (items : List Code) (f : FileS)
    (h : r.render f [] none (.group fileInfo items) = r'.render f [] none (.group fileInfo items)) :
    Gen.Src.Render cfg r w items f = Gen.Src.Render cfg r' w items f := by
  unfold Gen.Src.Render
  simp only [h]

theorem Save_rec_congr (cfg : Cfg) (r r' : Go.Rec) (w : World) (items : List Code) (f : FileS) (name : Str)
    (h : r.render f [] none (.group fileInfo items) = r'.render f [] none (.group fileInfo items)) :
    Gen.Src.Save cfg r w items f name = Gen.Src.Save cfg r' w items f name := by
  unfold Gen.Src.Save
  simp only [Render_rec_congr cfg r r' _ items f h]

theorem root_render (cfg : Cfg) (n : Nat) (items : List Code) (hn : depth (.group fileInfo items) < n)
    (ht : TagsOk (.group fileInfo items)) (f : FileS) (hg : Good cfg f) :
    (srcRec cfg n).render f [] none (.group fileInfo items) = (modelRec cfg).render f [] none (.group fileInfo items) :=
  srcRec_render cfg _ n hn ht f (Or.inr (Or.inl ⟨_, _, rfl⟩)) hg [] none

theorem File_Render_closed (tl : Str → Str) (ip : Nat → Bool) (w : World) (f : FileS)
    (hI : RegistryInv.Inv (Props.cfgOf tl ip) f) (hH : RegistryInv.HintsOk f) (items : List Code) (n : Nat)
    (hn : depth (.group fileInfo items) < n) (ht : TagsOk (.group fileInfo items)) :
    let cfg := Props.cfgOf tl ip
    (Gen.Src.Render cfg (srcRec cfg n) w items f).1 = (fileRender w cfg f items).1 ∧
    (Gen.Src.Render cfg (srcRec cfg n) w items f).2.1 = (fileRender w cfg f items).2.1 ∧
    (misuse f.np (.group fileInfo items) = false →
      (Gen.Src.Render cfg (srcRec cfg n) w items f).2.2 = (fileRender w cfg f items).2.2) := by
  intro cfg
  have hg : Good cfg f := RegistryGood.good_of_hintsOk hH (Props.stdOk tl ip)
  rw [Render_rec_congr cfg _ (modelRec cfg) w items f (root_render cfg n items hn ht f hg)]
  exact File_Render_eq_of_inv tl ip w f hI hH items

theorem File_Save_closed (tl : Str → Str) (ip : Nat → Bool) (w : World) (f : FileS)
    (hI : RegistryInv.Inv (Props.cfgOf tl ip) f) (hH : RegistryInv.HintsOk f) (items : List Code) (name : Str) (n : Nat)
    (hn : depth (.group fileInfo items) < n) (ht : TagsOk (.group fileInfo items)) :
    let cfg := Props.cfgOf tl ip
    (Gen.Src.Save cfg (srcRec cfg n) w items f name).1 = (fileSave w cfg f items).1 ∧
    (Gen.Src.Save cfg (srcRec cfg n) w items f name).2.1 = (fileSave w cfg f items).2.1 ∧
    (misuse f.np (.group fileInfo items) = false →
      (Gen.Src.Save cfg (srcRec cfg n) w items f name).2.2 = (fileSave w cfg f items).2.2) := by
  intro cfg
  have hg : Good cfg f := RegistryGood.good_of_hintsOk hH (Props.stdOk tl ip)
  rw [Save_rec_congr cfg _ (modelRec cfg) w items f name (root_render cfg n items hn ht f hg)]
  exact File_Save_eq_of_inv tl ip w f hI hH items name

/-- the fragment entry points call the translated `Statement.render` / `Group.render` directly: with
    `srcRec cfg n` as their recursion parameter that IS `srcRec cfg (n+1)` on the fragment -/
theorem Statement_RenderWithFile_rec (cfg : Cfg) (n : Nat) (w : World) (items : List Code) (f : FileS)
    (hn : depth (.stmt items) < n + 1) (ht : TagsOk (.stmt items)) (hg : Good cfg f) :
    Gen.Src.Statement_RenderWithFile cfg (srcRec cfg n) w items f =
      Gen.Src.Statement_RenderWithFile cfg (modelRec cfg) w items f := by
  have h : Gen.Src.Statement_render cfg (srcRec cfg n) items f [] =
      Gen.Src.Statement_render cfg (modelRec cfg) items f [] :=
    (srcRec_render cfg (.stmt items) (n + 1) hn ht f (Or.inr (Or.inr (Or.inl ⟨_, rfl⟩))) hg [] none).trans
      (Statement_render_eq cfg f hg items []).symm
  unfold Gen.Src.Statement_RenderWithFile
  simp only [h]

theorem Group_RenderWithFile_rec (cfg : Cfg) (n : Nat) (w : World) (g : GInfo) (items : List Code) (f : FileS)
    (hn : depth (.group g items) < n + 1) (ht : TagsOk (.group g items)) (hg : Good cfg f) :
    Gen.Src.Group_RenderWithFile cfg (srcRec cfg n) w g items f =
      Gen.Src.Group_RenderWithFile cfg (modelRec cfg) w g items f := by
  have h : Gen.Src.Group_render cfg (srcRec cfg n) g items f [] none =
      Gen.Src.Group_render cfg (modelRec cfg) g items f [] none :=
    (srcRec_render cfg (.group g items) (n + 1) hn ht f (Or.inr (Or.inl ⟨_, _, rfl⟩)) hg [] none).trans
      (Group_render_eq cfg f hg g items [] none).symm
  unfold Gen.Src.Group_RenderWithFile
  simp only [h]

theorem Group_RenderWithFile_closed_run (cfg : Cfg) (w : World) (f : FileS) (hg : Good cfg f) (g : GInfo)
    (items : List Code) (n : Nat) (hn : depth (.group g items) < n + 1) (ht : TagsOk (.group g items)) :
    Gen.Src.Group_RenderWithFile cfg (srcRec cfg n) w g items f =
      if misuse f.np (.group g items) then (Result.errMisuse, [], f) else fragRender w cfg f (.group g items) :=
  (Group_RenderWithFile_rec cfg n w g items f hn ht hg).trans (Group_RenderWithFile_run cfg w f hg g items)

theorem Statement_RenderWithFile_closed (cfg : Cfg) (w : World) (f : FileS) (hg : Good cfg f)
    (items : List Code) (n : Nat)
    (hn : depth (.stmt items) < n + 1) (ht : TagsOk (.stmt items)) :
    (Gen.Src.Statement_RenderWithFile cfg (srcRec cfg n) w items f).1 = (fragRender w cfg f (.stmt items)).1 ∧
    (Gen.Src.Statement_RenderWithFile cfg (srcRec cfg n) w items f).2.1 = (fragRender w cfg f (.stmt items)).2.1 ∧
    (misuse f.np (.stmt items) = false →
      (Gen.Src.Statement_RenderWithFile cfg (srcRec cfg n) w items f).2.2 =
        (fragRender w cfg f (.stmt items)).2.2) := by
  rw [Statement_RenderWithFile_rec cfg n w items f hn ht hg]
  exact Statement_RenderWithFile_eq cfg w f hg items

theorem Group_RenderWithFile_closed (cfg : Cfg) (w : World) (f : FileS) (hg : Good cfg f) (g : GInfo)
    (items : List Code) (n : Nat)
    (hn : depth (.group g items) < n + 1) (ht : TagsOk (.group g items)) :
    (Gen.Src.Group_RenderWithFile cfg (srcRec cfg n) w g items f).1 = (fragRender w cfg f (.group g items)).1 ∧
    (Gen.Src.Group_RenderWithFile cfg (srcRec cfg n) w g items f).2.1 = (fragRender w cfg f (.group g items)).2.1 ∧
    (misuse f.np (.group g items) = false →
      (Gen.Src.Group_RenderWithFile cfg (srcRec cfg n) w g items f).2.2 =
        (fragRender w cfg f (.group g items)).2.2) := by
  rw [Group_RenderWithFile_rec cfg n w g items f hn ht hg]
  exact Group_RenderWithFile_eq cfg w f hg g items

theorem Statement_GoString_closed (tl : Str → Str) (ip : Nat → Bool) (gofmt : Str → Option Str)
    (items : List Code) (n : Nat)
    (hn : depth (.stmt items) < n + 1) (ht : TagsOk (.stmt items)) :
    let cfg := Props.cfgOf tl ip
    (Gen.Src.Statement_GoString cfg (srcRec cfg n) gofmt items).1 = (fragGoString gofmt cfg (.stmt items)).1 ∧
    (Gen.Src.Statement_GoString cfg (srcRec cfg n) gofmt items).2.1 =
      (fragGoString gofmt cfg (.stmt items)).2.1 := by
  intro cfg
  unfold Gen.Src.Statement_GoString Gen.Src.Statement_Render
  rw [Statement_RenderWithFile_rec cfg n _ items (Gen.Src.NewFile cfg []).2 hn ht (good_newFile tl ip [])]
  exact Statement_GoString_eq tl ip gofmt items

theorem Group_GoString_closed (tl : Str → Str) (ip : Nat → Bool) (gofmt : Str → Option Str) (g : GInfo)
    (items : List Code) (n : Nat)
    (hn : depth (.group g items) < n + 1) (ht : TagsOk (.group g items)) :
    let cfg := Props.cfgOf tl ip
    (Gen.Src.Group_GoString cfg (srcRec cfg n) gofmt g items).1 = (fragGoString gofmt cfg (.group g items)).1 ∧
    (Gen.Src.Group_GoString cfg (srcRec cfg n) gofmt g items).2.1 =
      (fragGoString gofmt cfg (.group g items)).2.1 := by
  intro cfg
  unfold Gen.Src.Group_GoString Gen.Src.Group_Render
  rw [Group_RenderWithFile_rec cfg n _ g items (Gen.Src.NewFile cfg []).2 hn ht (good_newFile tl ip [])]
  exact Group_GoString_eq tl ip gofmt g items

-- the hypotheses of `Statement_GoString_closed` are satisfiable: the example tree of Tie/Whole is a Statement
example (tl : Str → Str) (ip : Nat → Bool) (gofmt : Str → Option Str) :
    ∃ items, exTree = .stmt items ∧ depth (.stmt items) < 3 + 1 ∧ TagsOk (.stmt items) :=
  ⟨_, rfl, exTree_depth, exTree_tagsOk⟩

#print axioms File_Render_closed
#print axioms File_Save_closed
#print axioms Statement_RenderWithFile_closed
#print axioms Group_RenderWithFile_closed
#print axioms Statement_GoString_closed
#print axioms Group_GoString_closed

end Tie
