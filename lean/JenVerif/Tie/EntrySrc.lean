import JenVerif.Tie.TextSrc
import JenVerif.Tie.RenderSrc
import JenVerif.Tie.FileOpsSrc
import JenVerif.Lemmas.Effects
import JenVerif.Props.C05
/-
  Tie 1b: the entry points `File.Render`, `Statement.RenderWithFile`, `Group.RenderWithFile`, `File.Save` and their
  wrappers `Statement.Render` / `Group.Render` (= `RenderWithFile(w, NewFile(""))`) and the three `GoString` (= `Render`
  into an in-memory buffer; an error is raised as a panic): every exported function of package jen that renders
  anything.  Every interaction with the outside is an `Effect` appended to a trace, its result supplied by
  `world : World`.  With the MODEL as recursion parameter (`modelRec cfg`) each entry point returns, for EVERY world,
  the `Result` and the effect trace of the model's `fileRender` / `fragRender` / `fileSave` / `fragRenderFresh` /
  `fragGoString` / `fileGoString`, and the same file state unless the render is aborted by the misuse error (Go returns
  before anything is written; the model's third component is the state a completed traversal would have reached, the
  code's the state at the abort: the statements do not compare them).
  One equation per entry point (`…_run`): the translated function = `if misuse then (errMisuse, [], f) else` the
  model's run; the three-part statements follow by `agree_of_run`.  `File.Save` is `File_Render_run` for the world whose
  writer never fails, and `fileSaveFrom_callerWritten`.
  `Good cfg f` is needed for the fragment entry points only (they go through the translated `Statement.render` /
  `Group.render`); `File.Render` / `File.Save` call `rec.render` at once: `File_Render_eq` and `File_Save_eq` keep the
  hypothesis, unused.
-/
namespace Tie
open Code Refine

/-- the head of the file as `File.Render` writes it -/
theorem head_eq (cfg : Cfg) (f : FileS) :
    (((if (!f.headers.isEmpty) = true then ([] : Str) ++ commentLines f.headers ++ ([10] : Str) else ([] : Str)) ++
        commentLines f.comments ++ (b!"package " ++ f.name)) ++
      (if (!f.canonical.isEmpty) = true then b!" // import " ++ Quote.quote cfg.isPrint f.canonical else [])) ++
      ([10, 10] : Str) = fileHead cfg.isPrint f := by
  unfold fileHead
  cases f.headers.isEmpty <;> cases f.canonical.isEmpty <;>
    simp only [Bool.not_true, Bool.not_false, if_true, if_false, Bool.false_eq_true, List.nil_append,
      List.append_assoc, List.append_nil]

/-- the tail of every translated entry point (format unless disabled, then one guarded write) is the
    model's `emit` -/
theorem emit_tail (w : World) (nf : Bool) (raw : Str) (f : FileS) :
    (if nf = true then
       (if w.writer raw = true then (Result.ok, [Effect.callerWrite raw], f)
        else (Result.errWriter, [Effect.callerWrite raw], f))
     else
       match w.gofmt raw with
       | none => (Result.errFormat raw, [Effect.format raw], f)
       | some b =>
         if w.writer b = true then (Result.ok, [Effect.format raw] ++ [Effect.callerWrite b], f)
         else (Result.errWriter, [Effect.format raw] ++ [Effect.callerWrite b], f))
    = ((emit w nf raw).1, (emit w nf raw).2, f) := by
  unfold emit
  cases nf
  · cases w.gofmt raw with
    | none => rfl
    | some b => cases h : w.writer b <;> simp [h]
  · cases w.writer raw <;> rfl

/-- `File.Render` reads `noFormat` (and `headers`, `name`, …) from the state AFTER the body render; the renderer
    writes `imports` only -/
theorem renderS_noFormat_eq (cfg : Cfg) (f : FileS) (prev : Option Code) (c : Code) :
    (renderS cfg f prev c).2.noFormat = f.noFormat :=
  (congrArg FileS.noFormat (Frame.renderS_writes cfg f prev c) :)

/-- how the statements below compare a translated entry point's run `x` with the model's `y`: on the
    misuse error the code returns the state it was called with, the model the state a completed
    traversal would have reached -/
theorem agree_of_run {x y : Result × List Effect × FileS} {m : Bool} {f : FileS}
    (hx : x = if m then (Result.errMisuse, [], f) else y)
    (hy : m = true → y.1 = Result.errMisuse ∧ y.2.1 = []) :
    x.1 = y.1 ∧ x.2.1 = y.2.1 ∧ (m = false → x.2.2 = y.2.2) := by
  subst hx
  cases m
  · exact ⟨rfl, rfl, fun _ => rfl⟩
  · exact ⟨(hy rfl).1.symm, (hy rfl).2.symm, fun h => nomatch h⟩

theorem File_Render_run (cfg : Cfg) (w : World) (f : FileS) (items : List Code)
    (hk : ((renderS cfg f none (.group fileInfo items)).2.imports.map (·.1)).Nodup) :
    Gen.Src.Render cfg (modelRec cfg) w items f =
      if misuse f.np (.group fileInfo items) then (Result.errMisuse, [], f) else fileRender w cfg f items := by
  unfold Gen.Src.Render fileRender fileRenderFrom renderFileRaw
  simp only [modelRec, ← renderS_noFormat_eq cfg f none (.group fileInfo items)]
  -- the body's text and state occur a dozen times: name them before rewriting
  generalize renderS cfg f none (.group fileInfo items) = r at hk ⊢
  cases misuse f.np (.group fileInfo items)
  · simp only [if_false, Bool.false_eq_true, comment_fold, Go.len_pos, Go.bne_nil,
      renderImports_src_eq_model _ _ _ hk, Go.ite_append, head_eq]
    simp only [List.nil_append]
    exact emit_tail w _ _ _
  · rfl

set_option linter.unusedVariables false in
theorem File_Render_eq (cfg : Cfg) (w : World) (f : FileS) (hg : Good cfg f) (items : List Code)
    (hk : ((renderS cfg f none (.group fileInfo items)).2.imports.map (·.1)).Nodup) :
    (Gen.Src.Render cfg (modelRec cfg) w items f).1 = (fileRender w cfg f items).1 ∧
    (Gen.Src.Render cfg (modelRec cfg) w items f).2.1 = (fileRender w cfg f items).2.1 ∧
    (misuse f.np (.group fileInfo items) = false →
      (Gen.Src.Render cfg (modelRec cfg) w items f).2.2 = (fileRender w cfg f items).2.2) :=
  agree_of_run (File_Render_run cfg w f items hk) fun h => by simp [fileRender, fileRenderFrom, h]

/-- `hk` and `Good` from the registry invariant (C05) and the hint guard -/
theorem File_Render_eq_of_inv (tl : Str → Str) (ip : Nat → Bool) (w : World) (f : FileS)
    (hI : RegistryInv.Inv (Props.cfgOf tl ip) f) (hH : RegistryInv.HintsOk f) (items : List Code) :
    (Gen.Src.Render (Props.cfgOf tl ip) (modelRec (Props.cfgOf tl ip)) w items f).1 =
      (fileRender w (Props.cfgOf tl ip) f items).1 ∧
    (Gen.Src.Render (Props.cfgOf tl ip) (modelRec (Props.cfgOf tl ip)) w items f).2.1 =
      (fileRender w (Props.cfgOf tl ip) f items).2.1 ∧
    (misuse f.np (.group fileInfo items) = false →
      (Gen.Src.Render (Props.cfgOf tl ip) (modelRec (Props.cfgOf tl ip)) w items f).2.2 =
        (fileRender w (Props.cfgOf tl ip) f items).2.2) :=
  File_Render_eq _ w f (RegistryGood.good_of_hintsOk hH (Props.stdOk tl ip)) items
    (C05.render_keeps_names_unique_and_legal tl ip f none (.group fileInfo items) hI hH).1.keysDistinct

/-- the fragment entry points, once their render method is known to be the model's -/
theorem frag_run (cfg : Cfg) (w : World) (f : FileS) (c : Code) :
    (match (modelRec cfg).render f [] none c with
      | none => (Result.errMisuse, ([] : List Effect), f)
      | some t =>
        match w.gofmt t.1 with
        | none => (Result.errFormat t.1, [] ++ [Effect.format t.1], t.2)
        | some b =>
          if w.writer b then (Result.ok, [] ++ [Effect.format t.1] ++ [Effect.callerWrite b], t.2)
          else (Result.errWriter, [] ++ [Effect.format t.1] ++ [Effect.callerWrite b], t.2)) =
      if misuse f.np c then (Result.errMisuse, [], f) else fragRender w cfg f c := by
  unfold fragRender fileRenderFrom
  simp only [modelRec]
  cases misuse f.np c
  · simp only [if_false, Bool.false_eq_true, List.nil_append]
    exact emit_tail w false _ _
  · rfl

theorem fragRender_misuse (w : World) (cfg : Cfg) (f : FileS) (c : Code) (h : misuse f.np c = true) :
    (fragRender w cfg f c).1 = Result.errMisuse ∧ (fragRender w cfg f c).2.1 = [] := by
  simp [fragRender, fileRenderFrom, h]

theorem Statement_RenderWithFile_run (cfg : Cfg) (w : World) (f : FileS) (hg : Good cfg f) (items : List Code) :
    Gen.Src.Statement_RenderWithFile cfg (modelRec cfg) w items f =
      if misuse f.np (.stmt items) then (Result.errMisuse, [], f) else fragRender w cfg f (.stmt items) := by
  unfold Gen.Src.Statement_RenderWithFile
  simp only [Statement_render_eq cfg f hg]
  exact frag_run cfg w f (.stmt items)

theorem Group_RenderWithFile_run (cfg : Cfg) (w : World) (f : FileS) (hg : Good cfg f) (g : GInfo) (items : List Code) :
    Gen.Src.Group_RenderWithFile cfg (modelRec cfg) w g items f =
      if misuse f.np (.group g items) then (Result.errMisuse, [], f) else fragRender w cfg f (.group g items) := by
  unfold Gen.Src.Group_RenderWithFile
  simp only [Group_render_eq cfg f hg]
  exact frag_run cfg w f (.group g items)

theorem Statement_RenderWithFile_eq (cfg : Cfg) (w : World) (f : FileS) (hg : Good cfg f) (items : List Code) :
    (Gen.Src.Statement_RenderWithFile cfg (modelRec cfg) w items f).1 = (fragRender w cfg f (.stmt items)).1 ∧
    (Gen.Src.Statement_RenderWithFile cfg (modelRec cfg) w items f).2.1 = (fragRender w cfg f (.stmt items)).2.1 ∧
    (misuse f.np (.stmt items) = false →
      (Gen.Src.Statement_RenderWithFile cfg (modelRec cfg) w items f).2.2 = (fragRender w cfg f (.stmt items)).2.2) :=
  agree_of_run (Statement_RenderWithFile_run cfg w f hg items) (fragRender_misuse w cfg f _)

theorem Group_RenderWithFile_eq (cfg : Cfg) (w : World) (f : FileS) (hg : Good cfg f) (g : GInfo) (items : List Code) :
    (Gen.Src.Group_RenderWithFile cfg (modelRec cfg) w g items f).1 = (fragRender w cfg f (.group g items)).1 ∧
    (Gen.Src.Group_RenderWithFile cfg (modelRec cfg) w g items f).2.1 = (fragRender w cfg f (.group g items)).2.1 ∧
    (misuse f.np (.group g items) = false →
      (Gen.Src.Group_RenderWithFile cfg (modelRec cfg) w g items f).2.2 = (fragRender w cfg f (.group g items)).2.2) :=
  agree_of_run (Group_RenderWithFile_run cfg w f hg g items) (fragRender_misuse w cfg f _)

theorem emit_true_result (w : World) (nf : Bool) (raw : Str) :
    (emit { w with writer := fun _ => true } nf raw).1 = Result.ok ∨
    (emit { w with writer := fun _ => true } nf raw).1 = Result.errFormat raw := by
  unfold emit
  cases nf
  · simp only [Bool.false_eq_true, if_false]
    split <;> simp
  · simp

/-- on the traces `emit` produces when it succeeds there is exactly one caller-write, the last
    effect: all caller-written bytes (`Go.callerWritten`, what the buffer of `File.Save` holds) are
    the bytes of the last effect (what the model's `fileSaveFrom` takes) -/
theorem emit_callerWritten (w : World) (nf : Bool) (raw : Str)
    (h : (emit w nf raw).1 = Result.ok) :
    Go.callerWritten (emit w nf raw).2 =
      (match (emit w nf raw).2.getLast? with
        | some (Effect.callerWrite b) => b
        | _ => []) := by
  revert h
  unfold emit
  cases nf
  · simp only [Bool.false_eq_true, if_false]
    split
    · simp
    · simp [Go.callerWritten]
  · simp [Go.callerWritten]

theorem withoutCallerWrites_eq (es : List Effect) :
    Go.withoutCallerWrites es = es.filter fun e => match e with | .callerWrite _ => false | _ => true := rfl

/-- the model's `fileSaveFrom` (bytes of the LAST effect) restated with the primitives of the
    translated `File.Save` (all caller-written bytes, concatenated): on every trace the private
    render can produce the two agree -/
theorem fileSaveFrom_callerWritten (w : World) (nf m : Bool) (raw : Str) :
    fileSaveFrom w nf m raw =
      (match (fileRenderFrom { w with writer := fun _ => true } nf m raw).1 with
        | .ok =>
          (if w.fs (Go.callerWritten (fileRenderFrom { w with writer := fun _ => true } nf m raw).2)
            then Result.ok else Result.errFs,
           Go.withoutCallerWrites (fileRenderFrom { w with writer := fun _ => true } nf m raw).2 ++
             [Effect.fsWrite (Go.callerWritten (fileRenderFrom { w with writer := fun _ => true } nf m raw).2)])
        | e => (e, (fileRenderFrom { w with writer := fun _ => true } nf m raw).2)) := by
  rw [Effects.fileSaveFrom_eq]
  simp only [Effects.fileRenderFrom_eq]
  cases m
  · cases (if nf = true then some raw else w.gofmt raw) with
    | none => rfl
    | some out => cases nf <;> simp [Go.callerWritten, Go.withoutCallerWrites]
  · rfl

/-- a private render that does not succeed has written nothing: `File.Save` drops the caller-writes
    from its trace, the model's `fileSaveFrom` keeps the trace as it is -/
theorem withoutCallerWrites_of_not_ok (w : World) (nf m : Bool) (raw : Str)
    (h : (fileRenderFrom { w with writer := fun _ => true } nf m raw).1 = Result.ok → False) :
    Go.withoutCallerWrites (fileRenderFrom { w with writer := fun _ => true } nf m raw).2 =
      (fileRenderFrom { w with writer := fun _ => true } nf m raw).2 := by
  revert h
  simp only [Effects.fileRenderFrom_eq]
  cases m
  · cases (if nf = true then some raw else w.gofmt raw) with
    | none => exact fun _ => rfl
    | some out => exact fun h => (h rfl).elim
  · exact fun _ => rfl

theorem File_Save_run (cfg : Cfg) (w : World) (f : FileS) (items : List Code) (name : Str)
    (hk : ((renderS cfg f none (.group fileInfo items)).2.imports.map (·.1)).Nodup) :
    Gen.Src.Save cfg (modelRec cfg) w items f name =
      if misuse f.np (.group fileInfo items) then (Result.errMisuse, [], f) else fileSave w cfg f items := by
  unfold Gen.Src.Save
  rw [File_Render_run cfg _ f items hk]
  cases hm : misuse f.np (.group fileInfo items) with
  | true => rfl
  | false =>
    simp only [hm, if_false, Bool.false_eq_true, fileSave, fileRender, fileSaveFrom_callerWritten, List.nil_append]
    have hno := withoutCallerWrites_of_not_ok w f.noFormat false (renderFileRaw cfg f items).1
    generalize fileRenderFrom _ f.noFormat false (renderFileRaw cfg f items).1 = t at hno ⊢
    rcases t with ⟨res, tr⟩
    -- `ok`: both sides write the buffer; any other result: the private render wrote nothing (`hno`)
    cases res
    · show (if w.fs _ = true then _ else _) = _
      split <;> simp [*]
    all_goals simp [hno]

set_option linter.unusedVariables false in
theorem File_Save_eq (cfg : Cfg) (w : World) (f : FileS) (hg : Good cfg f) (items : List Code) (name : Str)
    (hk : ((renderS cfg f none (.group fileInfo items)).2.imports.map (·.1)).Nodup) :
    (Gen.Src.Save cfg (modelRec cfg) w items f name).1 = (fileSave w cfg f items).1 ∧
    (Gen.Src.Save cfg (modelRec cfg) w items f name).2.1 = (fileSave w cfg f items).2.1 ∧
    (misuse f.np (.group fileInfo items) = false →
      (Gen.Src.Save cfg (modelRec cfg) w items f name).2.2 = (fileSave w cfg f items).2.2) :=
  agree_of_run (File_Save_run cfg w f items name hk) fun h => by simp [fileSave, fileSaveFrom, fileRenderFrom, h]

theorem File_Save_eq_of_inv (tl : Str → Str) (ip : Nat → Bool) (w : World) (f : FileS)
    (hI : RegistryInv.Inv (Props.cfgOf tl ip) f) (hH : RegistryInv.HintsOk f) (items : List Code) (name : Str) :
    (Gen.Src.Save (Props.cfgOf tl ip) (modelRec (Props.cfgOf tl ip)) w items f name).1 =
      (fileSave w (Props.cfgOf tl ip) f items).1 ∧
    (Gen.Src.Save (Props.cfgOf tl ip) (modelRec (Props.cfgOf tl ip)) w items f name).2.1 =
      (fileSave w (Props.cfgOf tl ip) f items).2.1 ∧
    (misuse f.np (.group fileInfo items) = false →
      (Gen.Src.Save (Props.cfgOf tl ip) (modelRec (Props.cfgOf tl ip)) w items f name).2.2 =
        (fileSave w (Props.cfgOf tl ip) f items).2.2) :=
  File_Save_eq _ w f (RegistryGood.good_of_hintsOk hH (Props.stdOk tl ip)) items name
    (C05.render_keeps_names_unique_and_legal tl ip f none (.group fileInfo items) hI hH).1.keysDistinct

theorem good_newFile (tl : Str → Str) (ip : Nat → Bool) (n : Str) :
    Good (Props.cfgOf tl ip) (Registry.newFile n) := by
  have hH : RegistryInv.HintsOk (Registry.newFile n) := ⟨fun p h hm => by simp [Registry.newFile] at hm, Or.inl rfl⟩
  exact RegistryGood.good_of_hintsOk hH (Props.stdOk tl ip)

theorem callerWritten_eq (es : List Effect) : Go.callerWritten es = Effect.written es := rfl

theorem Statement_Render_eq (tl : Str → Str) (ip : Nat → Bool) (w : World) (items : List Code) :
    let cfg := Props.cfgOf tl ip
    (Gen.Src.Statement_Render cfg (modelRec cfg) w items).1 = (fragRenderFresh w cfg (.stmt items)).1 ∧
    (Gen.Src.Statement_Render cfg (modelRec cfg) w items).2.1 = (fragRenderFresh w cfg (.stmt items)).2.1 ∧
    (misuse (Registry.newFile []).np (.stmt items) = false →
      (Gen.Src.Statement_Render cfg (modelRec cfg) w items).2.2 = (fragRenderFresh w cfg (.stmt items)).2.2) := by
  intro cfg
  unfold Gen.Src.Statement_Render fragRenderFresh
  rw [NewFile_eq]
  exact Statement_RenderWithFile_eq cfg w _ (good_newFile tl ip []) items

theorem Group_Render_eq (tl : Str → Str) (ip : Nat → Bool) (w : World) (g : GInfo) (items : List Code) :
    let cfg := Props.cfgOf tl ip
    (Gen.Src.Group_Render cfg (modelRec cfg) w g items).1 = (fragRenderFresh w cfg (.group g items)).1 ∧
    (Gen.Src.Group_Render cfg (modelRec cfg) w g items).2.1 = (fragRenderFresh w cfg (.group g items)).2.1 ∧
    (misuse (Registry.newFile []).np (.group g items) = false →
      (Gen.Src.Group_Render cfg (modelRec cfg) w g items).2.2 = (fragRenderFresh w cfg (.group g items)).2.2) := by
  intro cfg
  unfold Gen.Src.Group_Render fragRenderFresh
  rw [NewFile_eq]
  exact Group_RenderWithFile_eq cfg w _ (good_newFile tl ip []) g items

/-- the translated GoString wrapper (the `match`) on a run `a` gives the result and the string of the model's
    `goStringFrom` on any run with the same result and trace -/
theorem goString_congr (a b : Result × List Effect × FileS) (h1 : a.1 = b.1) (h2 : a.2.1 = b.2.1) :
    (match a.1 with
      | Result.ok => (Result.ok, ([] : Str) ++ Go.callerWritten a.2.1, a.2.2)
      | e => (e, ([] : Str), a.2.2)).1 = (goStringFrom b).1 ∧
    (match a.1 with
      | Result.ok => (Result.ok, ([] : Str) ++ Go.callerWritten a.2.1, a.2.2)
      | e => (e, ([] : Str), a.2.2)).2.1 = (goStringFrom b).2.1 := by
  unfold goStringFrom
  rw [h1, h2]
  cases b.1 <;> simp [callerWritten_eq]

theorem Statement_GoString_eq (tl : Str → Str) (ip : Nat → Bool) (gofmt : Str → Option Str) (items : List Code) :
    let cfg := Props.cfgOf tl ip
    (Gen.Src.Statement_GoString cfg (modelRec cfg) gofmt items).1 = (fragGoString gofmt cfg (.stmt items)).1 ∧
    (Gen.Src.Statement_GoString cfg (modelRec cfg) gofmt items).2.1 = (fragGoString gofmt cfg (.stmt items)).2.1 := by
  intro cfg
  have h := Statement_Render_eq tl ip (World.buffered gofmt) items
  exact goString_congr _ _ h.1 h.2.1

theorem Group_GoString_eq (tl : Str → Str) (ip : Nat → Bool) (gofmt : Str → Option Str) (g : GInfo)
    (items : List Code) :
    let cfg := Props.cfgOf tl ip
    (Gen.Src.Group_GoString cfg (modelRec cfg) gofmt g items).1 = (fragGoString gofmt cfg (.group g items)).1 ∧
    (Gen.Src.Group_GoString cfg (modelRec cfg) gofmt g items).2.1 = (fragGoString gofmt cfg (.group g items)).2.1 := by
  intro cfg
  have h := Group_Render_eq tl ip (World.buffered gofmt) g items
  exact goString_congr _ _ h.1 h.2.1

theorem File_GoString_eq (tl : Str → Str) (ip : Nat → Bool) (gofmt : Str → Option Str) (f : FileS)
    (hI : RegistryInv.Inv (Props.cfgOf tl ip) f) (hH : RegistryInv.HintsOk f) (items : List Code) :
    let cfg := Props.cfgOf tl ip
    (Gen.Src.GoString cfg (modelRec cfg) gofmt items f).1 = (fileGoString gofmt cfg f items).1 ∧
    (Gen.Src.GoString cfg (modelRec cfg) gofmt items f).2.1 = (fileGoString gofmt cfg f items).2.1 := by
  intro cfg
  have h := File_Render_eq_of_inv tl ip (World.buffered gofmt) f hI hH items
  exact goString_congr _ _ h.1 h.2.1

/-- the hypotheses are satisfiable: the empty file, any body (`Good`, and `hk` via the invariant) -/
example (tl : Str → Str) (ip : Nat → Bool) (items : List Code) :
    Good (Props.cfgOf tl ip) {} ∧
    ((renderS (Props.cfgOf tl ip) {} none (.group fileInfo items)).2.imports.map (·.1)).Nodup := by
  have hH : RegistryInv.HintsOk {} := ⟨fun p h hm => by simp at hm, Or.inl rfl⟩
  exact ⟨RegistryGood.good_of_hintsOk hH (Props.stdOk tl ip),
    (C05.render_keeps_names_unique_and_legal tl ip {} none (.group fileInfo items)
      (RegistryInv.inv_empty _) hH).1.keysDistinct⟩

example : RegistryInv.Inv RegistryInv.cfg0 RegistryInv.f0 ∧ RegistryInv.HintsOk RegistryInv.f0 :=
  ⟨RegistryInv.inv_f0, RegistryInv.hintsOk_f0⟩

#print axioms File_Render_eq
#print axioms Statement_RenderWithFile_eq
#print axioms Group_RenderWithFile_eq
#print axioms File_Save_eq
#print axioms File_Render_eq_of_inv
#print axioms File_Save_eq_of_inv
#print axioms fileSaveFrom_callerWritten

#print axioms Statement_Render_eq
#print axioms Group_Render_eq
#print axioms Statement_GoString_eq
#print axioms Group_GoString_eq
#print axioms File_GoString_eq

end Tie
