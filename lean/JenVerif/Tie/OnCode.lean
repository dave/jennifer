import JenVerif.Tie.Closed
import JenVerif.Props.C10
import JenVerif.Props.C13
import JenVerif.Props.C08
import JenVerif.Props.C07
import JenVerif.Props.C17
import JenVerif.Props.C15
import JenVerif.Props.C06
import JenVerif.Props.C04
import JenVerif.Props.C19
import JenVerif.Props.C03
import JenVerif.Props.C16
import JenVerif.Props.C12
import JenVerif.Props.C11
import JenVerif.Tie.RegisterSrc
/-
  Property statements transferred to the TRANSLATED code.
  The theorems of `Props/Cxx.lean` are about the model; `Tie/Closed` says the translated entry points, closed under the
  translated render and null methods (`srcRec`; its `register` is the model's, tied to the translated one by
  `register_src_eq_model`), ARE the model.  This file composes the two, so that the statement a user relies on is one
  about the functions of /repo as translated on this run.  One theorem or two per property: C03 C04 C06 C07 C08 C10
  (with C02) C11 C12 C13 C15 C16 C17 C19; what each claims about the translated function is said at the theorem.
-/
namespace Tie
open Code Refine

variable (tl : Str → Str) (ip : Nat → Bool)

/-- C10 (atomicity) on the translated `File.Render`: it hands its caller's writer at most one buffer,
    and only the accepted formatter output (or the raw source under NoFormat), never after a failure;
    C02: when it succeeds, that buffer was written and accepted -/
theorem C10_render_on_code (w : World) (f : FileS)
    (hI : RegistryInv.Inv (Props.cfgOf tl ip) f) (hH : RegistryInv.HintsOk f) (items : List Code) (n : Nat)
    (hn : depth (.group fileInfo items) < n) (ht : TagsOk (.group fileInfo items)) :
    let cfg := Props.cfgOf tl ip
    let r := Gen.Src.Render cfg (srcRec cfg n) w items f
    (r.2.1.filter C10.isWrite).length ≤ 1 ∧
    (∀ b, Effect.callerWrite b ∈ r.2.1 →
        Code.misuse f.np (.group Code.fileInfo items) = false ∧
        (f.noFormat = true ∧ b = (renderFileRaw cfg f items).1 ∨
         f.noFormat = false ∧ w.gofmt (renderFileRaw cfg f items).1 = some b)) ∧
    (r.1 = .ok → ∃ out, Effect.callerWrite out ∈ r.2.1 ∧ w.writer out = true) := by
  intro cfg r
  have hc := File_Render_closed tl ip w f hI hH items n hn ht
  have hm := C10.render_writes_only_after_success w cfg f items
  have e1 : r.1 = (fileRender w cfg f items).1 := hc.1
  have e2 : r.2.1 = (fileRender w cfg f items).2.1 := hc.2.1
  refine ⟨?_, ?_, ?_⟩
  · rw [e2]
    exact hm.1
  · rw [e2]
    exact hm.2
  · rw [e1, e2]
    intro hok
    obtain ⟨hmis, out, hout, hw, _⟩ := (C10.ok_iff_written w f.noFormat _ _).mp hok
    exact ⟨out, (Effects.callerWrite_mem_iff w f.noFormat _ _ out).mpr ⟨hmis, hout⟩, hw⟩

/-- C10 on the translated `File.Save`: the filesystem is touched at most once and only with the accepted
    output (never after a failure); when it succeeds, that buffer was written and accepted -/
theorem C10_save_on_code (w : World) (f : FileS)
    (hI : RegistryInv.Inv (Props.cfgOf tl ip) f) (hH : RegistryInv.HintsOk f) (items : List Code) (name : Str)
    (n : Nat)
    (hn : depth (.group fileInfo items) < n) (ht : TagsOk (.group fileInfo items)) :
    let cfg := Props.cfgOf tl ip
    let r := Gen.Src.Save cfg (srcRec cfg n) w items f name
    (∀ b, Effect.fsWrite b ∈ r.2.1 →
        Code.misuse f.np (.group Code.fileInfo items) = false ∧
        (if f.noFormat then some (renderFileRaw cfg f items).1 else w.gofmt (renderFileRaw cfg f items).1) = some b) ∧
    (r.2.1.filter C10.isFsWrite).length ≤ 1 ∧
    (r.1 = .ok → ∃ b, Effect.fsWrite b ∈ r.2.1 ∧ w.fs b = true) := by
  intro cfg r
  have hc := File_Save_closed tl ip w f hI hH items name n hn ht
  have hm := C10.save_untouched_on_failure w f.noFormat (Code.misuse f.np (.group Code.fileInfo items))
    (renderFileRaw cfg f items).1
  have e1 : r.1 = (fileSave w cfg f items).1 := hc.1
  have e2 : r.2.1 = (fileSave w cfg f items).2.1 := hc.2.1
  refine ⟨?_, ?_, ?_⟩
  · rw [e2]
    exact hm.1
  · rw [e2]
    exact hm.2.1
  · rw [e1, e2]
    exact hm.2.2.1

/-- C13 on the translated `Group.RenderWithFile`: a void item inserted at any position of any group
    changes nothing observable — result, effect trace, File state — for every formatter and writer -/
theorem C13_insert_void_on_code (cfg : Cfg) (w : World) (f : FileS) (hg : Good cfg f) (g : GInfo)
    (xs ys : List Code) (v : Code) (hv : void v = true) (n : Nat)
    (hn1 : depth (.group g (xs ++ v :: ys)) < n + 1) (ht1 : TagsOk (.group g (xs ++ v :: ys)))
    (hn2 : depth (.group g (xs ++ ys)) < n + 1) (ht2 : TagsOk (.group g (xs ++ ys))) :
    (Gen.Src.Group_RenderWithFile cfg (srcRec cfg n) w g (xs ++ v :: ys) f).1 =
      (Gen.Src.Group_RenderWithFile cfg (srcRec cfg n) w g (xs ++ ys) f).1 ∧
    (Gen.Src.Group_RenderWithFile cfg (srcRec cfg n) w g (xs ++ v :: ys) f).2.1 =
      (Gen.Src.Group_RenderWithFile cfg (srcRec cfg n) w g (xs ++ ys) f).2.1 ∧
    (misuse f.np (.group g (xs ++ ys)) = false →
      (Gen.Src.Group_RenderWithFile cfg (srcRec cfg n) w g (xs ++ v :: ys) f).2.2 =
        (Gen.Src.Group_RenderWithFile cfg (srcRec cfg n) w g (xs ++ ys) f).2.2) := by
  -- the two runs are the same run: same misuse verdict, same model run
  have e : Gen.Src.Group_RenderWithFile cfg (srcRec cfg n) w g (xs ++ v :: ys) f =
      Gen.Src.Group_RenderWithFile cfg (srcRec cfg n) w g (xs ++ ys) f := by
    rw [Group_RenderWithFile_closed_run cfg w f hg g _ n hn1 ht1,
      Group_RenderWithFile_closed_run cfg w f hg g _ n hn2 ht2, C13.insert_void_keeps_outcome f.np g xs ys v hv]
    unfold fragRender
    rw [C13.insert_void_keeps_outcome f.np g xs ys v hv, C13.insert_void_stateful cfg f none g xs ys v hv]
  exact ⟨congrArg _ e, congrArg (·.2.1) e, fun _ => congrArg (·.2.2) e⟩

/-- C08 on the translated `File.Render`: rendered again on the state the first render left, it
    returns the same result and the same effect trace -/
theorem C08_rerender_on_code (w : World) (f : FileS)
    (hI : RegistryInv.Inv (Props.cfgOf tl ip) f) (hH : RegistryInv.HintsOk f) (items : List Code) (n : Nat)
    (hn : depth (.group fileInfo items) < n) (ht : TagsOk (.group fileInfo items))
    (hm : misuse f.np (.group fileInfo items) = false) :
    let cfg := Props.cfgOf tl ip
    let r1 := Gen.Src.Render cfg (srcRec cfg n) w items f
    let r2 := Gen.Src.Render cfg (srcRec cfg n) w items r1.2.2
    r2.1 = r1.1 ∧ r2.2.1 = r1.2.1 := by
  intro cfg r1 r2
  have c1 := File_Render_closed tl ip w f hI hH items n hn ht
  -- the state the first run leaves is the model's, where the invariant and the hint guard hold again
  have hs : r1.2.2 = (fileRender w cfg f items).2.2 := c1.2.2 hm
  have hinv := C05.render_keeps_names_unique_and_legal tl ip f none (.group fileInfo items) hI hH
  have c2 := File_Render_closed tl ip w r1.2.2 (by rw [hs]; exact hinv.1) (by rw [hs]; exact hinv.2) items n hn ht
  have e : fileRender w cfg r1.2.2 items = fileRender w cfg f items := by
    rw [hs]
    exact C08.file_render_idempotent_effects w hH (Props.stdOk tl ip) items
  refine ⟨?_, ?_⟩
  · rw [c2.1, e, ← c1.1]
  · rw [c2.2.1, e, ← c1.2.1]

/-- C07 on the translated `tag.render`: the Go code ranges over the caller's map; `t₁`, `t₂` are the
    map's entries in any two iteration orders — the bytes written are the same -/
theorem C07_tag_on_code (cfg : Cfg) (f : FileS) (out : Str) {t₁ t₂ : List (Str × Str)} (h : t₁.Perm t₂)
    (hk : (t₁.map (·.1)).Nodup) :
    Gen.Src.tag_render cfg t₁ f out = Gen.Src.tag_render cfg t₂ f out := by
  rw [tag_render_eq cfg t₁ f out hk, tag_render_eq cfg t₂ f out ((h.map _).nodup_iff.mp hk),
    C07.tag_perm cfg.isPrint h hk, h.isEmpty_eq]

/-- C07 on the translated `File.renderImports`: `f₁`, `f₂` differ only in the iteration order of the
    import table (a Go map) — the import block written is the same -/
theorem C07_imports_on_code (cfg : Cfg) (out : Str) {f₁ f₂ : FileS} (h : f₁.imports.Perm f₂.imports)
    (hk : (f₁.imports.map (·.1)).Nodup) (hc : f₁.cgo = f₂.cgo) :
    Gen.Src.renderImports cfg f₁ out = Gen.Src.renderImports cfg f₂ out := by
  have hk2 : (f₂.imports.map (·.1)).Nodup := (List.Perm.nodup_iff (List.Perm.map _ h)).mp hk
  rw [renderImports_src_eq_model cfg f₁ out hk, renderImports_src_eq_model cfg f₂ out hk2,
    C07.importBlock_perm cfg.isPrint h hk hc]

/-- C07 on the translated `File.ImportNames`: any iteration order of the argument map leaves the same
    hint for every path -/
theorem C07_importNames_on_code (cfg : Cfg) (f : FileS) {m₁ m₂ : List (Str × Str)} (h : m₁.Perm m₂)
    (nd : (m₁.map (·.1)).Nodup) (p : Str) :
    AList.lookup (Gen.Src.ImportNames cfg f m₁).hints p = AList.lookup (Gen.Src.ImportNames cfg f m₂).hints p := by
  rw [ImportNames_eq, ImportNames_eq]
  exact C07.importNames_perm f h nd p

/-- C17 on the translated `tag.render`: what it writes for a non-empty map with distinct conventional
    keys is ONE Go string literal which, read back and looked up with reflect's algorithm, yields
    every value exactly — for arbitrary byte-string values and whatever source text follows -/
theorem C17_lookup_on_code (cfg : Cfg) (h : Quote.PSafe cfg.isPrint) (f : FileS) (m : List (Str × Str))
    (nd : (m.map (·.1)).Nodup) (hk : ∀ kv ∈ m, StructTag.convKey kv.1 = true) (kv : Str × Str) (hm : kv ∈ m)
    (rest : Str) :
    (TagRT.readGoLiteral (Gen.Src.tag_render cfg m f [] ++ rest)).bind (fun r => StructTag.lookup r.1 kv.1) =
      some kv.2 := by
  have hne : m.isEmpty = false := by
    cases m with
    | nil => cases hm
    | cons _ _ => rfl
  rw [tag_render_eq cfg m f [] nd, hne, if_neg Bool.false_ne_true, List.nil_append]
  exact C17.lookup_roundtrip h m nd hk kv hm rest

/-- C15 on the translated `comment.render`: a one-line text in the property's domain is written as a
    line comment that ends at the line break — whatever code follows stays code -/
theorem C15_line_comment_on_code (cfg : Cfg) (f : FileS) (t : Str) (hd : CommentLemmas.InDomain t)
    (h : t.elem 10 = false) (rest : Str) :
    GoComment.skipComment (Gen.Src.comment_render cfg t f [] ++ [10] ++ rest) = some (b!"// " ++ t, [10] ++ rest) := by
  rw [comment_render_eq]
  simp only [List.nil_append]
  exact C15.line_comment_contained t hd h rest

/-- … and a text with line breaks as a block comment that ends exactly at the `*/` it appends -/
theorem C15_block_comment_on_code (cfg : Cfg) (f : FileS) (t : Str) (hd : CommentLemmas.InDomain t)
    (h : t.elem 10 = true) (rest : Str) :
    GoComment.skipComment (Gen.Src.comment_render cfg t f [] ++ rest) =
      some (Gen.Src.comment_render cfg t f [], rest) := by
  rw [comment_render_eq]
  simp only [List.nil_append]
  exact (C15.block_comment_contained t hd h rest).1

/-- C06 on the translated renderer: `Qual(p, n)` with `p` the File's own path — rendered by the
    translated `Group.render` calling the translated `token.isNull` / `token.render` and the model's `register` —
    writes the bare name and leaves the File (its import table) untouched -/
theorem C06_local_on_code (cfg : Cfg) (f : FileS) (hg : Good cfg f) (w : Str) (prev : Option Code) (p n : Str)
    (h : Registry.isLocal f p = true) :
    (srcRec cfg 3).render f w prev (Code.qual p n) = some (w ++ n, f) := by
  have hd : depth (Code.qual p n) < 3 := Nat.le.step Nat.le.refl
  have ht : TagsOk (Code.qual p n) := ⟨trivial, trivial, trivial⟩
  have hm : misuse f.np (Code.qual p n) = false := by
    simp only [Code.qual, misuse, misuseItems, isDict, Bool.and_false, Bool.or_false, ite_self]
  rw [srcRec_render cfg _ 3 hd ht f (Or.inr (Or.inl ⟨_, _, rfl⟩)) hg w prev]
  simp only [modelRec, hm, Bool.false_eq_true, if_false, C06.local_bare cfg f prev p n h]

/-- C04 on the translated `File.Render`: the import table it leaves behind (from which the block is
    printed) holds, beyond what was there before, exactly the non-local paths the traversal visits —
    and every visited non-local path is registered under a real name -/
theorem C04_block_exact_on_code (w : World) (f : FileS)
    (hI : RegistryInv.Inv (Props.cfgOf tl ip) f) (hH : RegistryInv.HintsOk f) (items : List Code) (n : Nat)
    (hn : depth (.group fileInfo items) < n) (ht : TagsOk (.group fileInfo items))
    (hm : misuse f.np (.group fileInfo items) = false) (p : Str) :
    let cfg := Props.cfgOf tl ip
    let f' := (Gen.Src.Render cfg (srcRec cfg n) w items f).2.2
    (p ∈ f'.imports.map (·.1) →
      p ∈ f.imports.map (·.1) ∨ (Frame.visitsItems f.np items p = true ∧ Registry.isLocal f p = false)) ∧
    (Frame.visitsItems f.np items p = true → Registry.isLocal f p = false → Registry.isReg f' p = true) := by
  intro cfg f'
  have hc := File_Render_closed tl ip w f hI hH items n hn ht
  have hs : f' = (renderFileRaw cfg f items).2 := hc.2.2 hm
  rw [hs]
  exact C04.block_paths_exact hH (Props.stdOk tl ip) items p

/-- C19 on the translated `File.register`: the cgo pseudo-package is registered as `C`, unaliased,
    whatever hints, prefix and other imports the File has (every library satisfying `AsciiOk`, every
    sufficient fuel) -/
theorem C19_C_on_code (lib : Go.Lib) (hl : lib.AsciiOk) (f : FileS)
    (hI : RegistryInv.Inv (Props.cfgOf tl ip) f) (hloc : Registry.isLocal f b!"C" = false) (fuel : Nat)
    (hf : registerFuel tl ip f b!"C" ≤ fuel) :
    (Gen.Src.register (Props.cfgOf tl ip) lib fuel f b!"C").1 = b!"C" ∧
    Registry.lookupImp (Gen.Src.register (Props.cfgOf tl ip) lib fuel f b!"C").2 b!"C" = ⟨b!"C", false⟩ := by
  rw [register_src_eq_model tl ip lib hl f b!"C" fuel hf]
  exact C19.C_registered_as_C hI hloc

/-- C03 on the translated `File.Render` (NoFormat, so the bytes are jennifer's own): what it hands to
    the writer is the file head, the import block printed from the table it LEAVES BEHIND, and the body
    rendered purely under that same final table — every qualifier in the body is the name the block
    declares for its path -/
theorem C03_final_table_on_code (w : World) (f : FileS)
    (hI : RegistryInv.Inv (Props.cfgOf tl ip) f) (hH : RegistryInv.HintsOk f) (items : List Code) (n : Nat)
    (hn : depth (.group fileInfo items) < n) (ht : TagsOk (.group fileInfo items))
    (hm : misuse f.np (.group fileInfo items) = false) (hnf : f.noFormat = true) :
    let cfg := Props.cfgOf tl ip
    let r := Gen.Src.Render cfg (srcRec cfg n) w items f
    r.2.1 = [Effect.callerWrite (fileHead cfg.isPrint r.2.2 ++ renderImports cfg.isPrint r.2.2 ++
      renderP cfg (envOf r.2.2) none (.group fileInfo items))] := by
  intro cfg r
  have hc := File_Render_closed tl ip w f hI hH items n hn ht
  have hs : r.2.2 = (renderFileRaw cfg f items).2 := hc.2.2 hm
  have he : r.2.1 = (fileRender w cfg f items).2.1 := hc.2.1
  have hraw := (C03.file_uses_final_table (cfg := cfg) hH (Props.stdOk tl ip) items).1
  rw [he, hs, ← hraw]
  simp [fileRender, fileRenderFrom, emit, hm, hnf]

/-- C16 on the translated `Dict.render` (closed): what it writes is the layout of the SORTED list of
    text pairs; that list is a permutation of exactly the non-null pairs' texts — each once — under the
    naming of the File state it leaves behind, and it is ordered by key text (then value text) -/
theorem C16_dict_on_code (cfg : Cfg) (f : FileS) (hg : Good cfg f) (ps : List (Code × Code)) (n : Nat)
    (hn : depth (.dict ps) < n) (ht : TagsOk (.dict ps)) (w : Str) (hm : misusePairs f.np ps = false) :
    let f' := (renderS cfg f none (.dict ps)).2
    let sorted := (dictPairsP cfg (envOf f') ps).mergeSort dictLe
    (srcRec cfg n).render f w none (.dict ps) = some (w ++ dictBodyP sorted.length true sorted, f') ∧
    sorted.Perm ((ps.filter (C16.keptPair (envOf f').np)).map
      fun p => (renderP cfg (envOf f') none p.1, renderP cfg (envOf f') none p.2)) ∧
    sorted.Pairwise (fun a b => dictLe a b = true) := by
  intro f' sorted
  have h1 := srcRec_render cfg (.dict ps) n hn ht f (Or.inr (Or.inr (Or.inr ⟨_, rfl⟩))) hg w none
  have hmis : misuse f.np (.dict ps) = false := by simpa [misuse] using hm
  have h2 := C16.stateful_eq_pure cfg f hg ps f' (Ext.refl _)
  have hs := C16.sorted_is_permutation cfg (envOf f') ps
  refine ⟨?_, ?_, hs.2⟩
  · rw [h1]
    simp only [modelRec, hmis, Bool.false_eq_true, if_false, h2]
    rfl
  · rw [← C16.pairs_exact cfg (envOf f') ps]
    exact hs.1

/-- C12 on the translated `token.render`: for EVERY byte string (quotes, backslashes, line breaks,
    NUL, invalid UTF-8 …) what it writes for `Lit(s)`, read back with Go's string-literal grammar, is
    exactly `s`, and the reader stops exactly where the literal ends — whatever follows, whatever the
    recursion parameter and File state -/
theorem C12_string_on_code (cfg : Cfg) (h : Quote.PSafe cfg.isPrint) (rec : Go.Rec) (f : FileS) (s rest : Str) :
    ∃ out, Gen.Src.token_render cfg rec (Go.tokTyp (.lit (.str s))) (Go.dynOf (.lit (.str s))) f [] =
        some (out, f) ∧
      GoLex.readString (out ++ rest) = some (s, rest) := by
  refine ⟨_, by rw [token_render_lit], ?_⟩
  simp only [List.nil_append]
  exact C12.string_roundtrip h s rest

/-- … and every byte value is written as `byte(0x<digits>)` with exactly that value -/
theorem C12_byte_on_code (cfg : Cfg) (rec : Go.Rec) (f : FileS) (b : UInt8) :
    ∃ digits, Gen.Src.token_render cfg rec (Go.tokTyp (.lit (.byte b))) (Go.dynOf (.lit (.byte b))) f [] =
        some (b!"byte(0x" ++ digits ++ b!")", f) ∧
      GoNum.readHex (b!"0x" ++ digits) = some b.toNat := by
  obtain ⟨digits, h1, h2⟩ := C12.byte_roundtrip cfg.isPrint b
  refine ⟨digits, ?_, h2⟩
  rw [token_render_lit, h1]
  rfl

/-- C11 on the translated `token.render`: an untyped int is written as a decimal literal with exactly
    its value; a sized integer as `<type name>(<literal>)` with the Go name of its own type -/
theorem C11_int_on_code (cfg : Cfg) (rec : Go.Rec) (f : FileS) (v : Int) :
    ∃ out, Gen.Src.token_render cfg rec (Go.tokTyp (.lit (.int v))) (Go.dynOf (.lit (.int v))) f [] =
        some (out, f) ∧
      GoNum.readSignedDec out = some v := by
  refine ⟨_, by rw [token_render_lit], ?_⟩
  simp only [List.nil_append]
  exact C11.int_render cfg.isPrint v

theorem C11_sized_on_code (cfg : Cfg) (rec : Go.Rec) (f : FileS) (ty : NumTy) (v : Int) :
    Gen.Src.token_render cfg rec (Go.tokTyp (.lit (.sized ty v))) (Go.dynOf (.lit (.sized ty v))) f [] =
      some (ty.name ++ b!"(" ++ Lit.fmtInt ty.signed v ++ b!")", f) := by
  rw [token_render_lit, C11.typed_shape]
  rfl

#print axioms C11_int_on_code
#print axioms C11_sized_on_code
#print axioms C12_string_on_code
#print axioms C12_byte_on_code
#print axioms C16_dict_on_code
#print axioms C03_final_table_on_code
#print axioms C19_C_on_code
#print axioms C04_block_exact_on_code
#print axioms C06_local_on_code
#print axioms C17_lookup_on_code
#print axioms C15_line_comment_on_code
#print axioms C15_block_comment_on_code
#print axioms C07_tag_on_code
#print axioms C07_imports_on_code
#print axioms C07_importNames_on_code
#print axioms C10_render_on_code
#print axioms C10_save_on_code
#print axioms C13_insert_void_on_code
#print axioms C08_rerender_on_code

end Tie
