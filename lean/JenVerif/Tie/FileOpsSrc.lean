import JenVerif.Tie.GuessAliasSrc
/-
  Tie 1b for the constructors and the file-level setters of File, TRANSLATED from
  jen/file.go (`NewFile`, `NewFilePath`, `NewFilePathName`, `HeaderComment`, `PackageComment`,
  `CgoPreamble`), equal the model's operations (`Registry.newFile` …), which are the ones the
  driver executes in the correspondence; `fragRenderFresh` starts from `Registry.newFile []`.
  A constructor is translated as the pair (embedded Group's record, File state): the Group of every
  File is `Code.fileInfo` (no name, no delimiters, no separator, multi-line), its import table and
  hint table start empty, NoFormat / PackagePrefix / CanonicalPath / comments start at their zero
  values.
-/
namespace Tie
open Registry

theorem NewFile_eq (cfg : Cfg) (n : Str) : Gen.Src.NewFile cfg n = (Code.fileInfo, newFile n) := rfl

theorem NewFilePathName_eq (cfg : Cfg) (p n : Str) :
    Gen.Src.NewFilePathName cfg p n = (Code.fileInfo, newFilePathName p n) := rfl

/-- the package name of `NewFilePath` is `guessAlias` of the path -/
theorem NewFilePath_eq (cfg : Cfg) (lib : Go.Lib) (hl : lib.AsciiOk) (p : Str) (fuel : Nat)
    (hf : guessFuel cfg p ≤ fuel) :
    Gen.Src.NewFilePath cfg lib fuel p = (Code.fileInfo, newFilePath cfg.toLower p) := by
  unfold Gen.Src.NewFilePath newFilePath
  rw [guessAlias_eq cfg lib hl p fuel hf]
  rfl

theorem HeaderComment_eq (cfg : Cfg) (f : FileS) (t : Str) : Gen.Src.HeaderComment cfg f t = headerComment f t := rfl

theorem PackageComment_eq (cfg : Cfg) (f : FileS) (t : Str) :
    Gen.Src.PackageComment cfg f t = packageComment f t := rfl

theorem CgoPreamble_eq (cfg : Cfg) (f : FileS) (t : Str) : Gen.Src.CgoPreamble cfg f t = cgoPreamble f t := rfl

/-- on the translated code: a File made by `NewFilePath` is local to exactly its own path; one made by
    `NewFile` starts with empty tables, formatting on and no prefix -/
theorem NewFilePath_local (cfg : Cfg) (lib : Go.Lib) (hl : lib.AsciiOk) (p q : Str) (fuel : Nat)
    (hf : guessFuel cfg p ≤ fuel) :
    isLocal (Gen.Src.NewFilePath cfg lib fuel p).2 q = (p == q) := by
  rw [NewFilePath_eq cfg lib hl p fuel hf]; rfl

theorem NewFile_tables_empty (cfg : Cfg) (n : Str) :
    (Gen.Src.NewFile cfg n).2.imports = [] ∧ (Gen.Src.NewFile cfg n).2.hints = [] ∧
    (Gen.Src.NewFile cfg n).2.noFormat = false ∧ (Gen.Src.NewFile cfg n).2.pfx = [] := ⟨rfl, rfl, rfl, rfl⟩

#print axioms NewFile_eq
#print axioms NewFilePath_eq
#print axioms NewFilePathName_eq
#print axioms HeaderComment_eq
#print axioms PackageComment_eq
#print axioms CgoPreamble_eq

end Tie
