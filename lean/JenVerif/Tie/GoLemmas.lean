import JenVerif.GoPrim
import JenVerif.Lemmas.AList
/-
  What the proofs of `Tie/*` need to know about the primitives of `GoPrim.lean` and about the Go
  idioms the translator prints around them (`len(x) > 0`, `s != ""`, `if c { s += y }`, a map ranged
  over in sorted key order).
-/
namespace Go
open List

/-- Go ints are `Int`, lengths are `Int.ofNat l.length`; `omega` takes `Int.ofNat n` for an atom, so the
    proofs restate such goals with the cast `(n : Int)` first -/
theorem ofNat_gt (n k : Nat) : decide ((Int.ofNat n) > (Int.ofNat k)) = decide (n > k) :=
  decide_eq_decide.mpr (show (k : Int) < (n : Int) ↔ k < n by omega)

theorem len_pos {α} (l : List α) : decide ((Int.ofNat l.length) > (0 : Int)) = !l.isEmpty := by
  cases l with
  | nil => rfl
  | cons a l => exact (ofNat_gt _ 0).trans (decide_eq_true (Nat.succ_pos _))

theorem len_gt_one (n : Nat) : decide ((Int.ofNat n) > (1 : Int)) = decide (n > 1) := ofNat_gt n 1

theorem len_eq_zero {α} (l : List α) : ((Int.ofNat l.length) == (0 : Int)) = l.isEmpty := by
  cases l with
  | nil => rfl
  | cons a l => exact beq_eq_false_iff_ne.mpr (show ((l.length + 1 : Nat) : Int) ≠ 0 by omega)

theorem bne_nil {α} [BEq α] (s : List α) : (s != ([] : List α)) = !s.isEmpty := by cases s <;> rfl

theorem ite_bool (b : Bool) : (if b = true then true else false) = b := by cases b <;> rfl

theorem ite_not_bool (b : Bool) : (if b = true then false else true) = !b := by cases b <;> rfl

/-- `if c { return true }; return a` -/
theorem ite_true_or (c a : Bool) : (if c = true then true else a) = (a || c) := by
  cases c <;> cases a <;> rfl

/-- `if c { s += y }` -/
theorem ite_append {α} (c : Prop) [Decidable c] (x y : List α) :
    (if c then x ++ y else x) = x ++ if c then y else [] := by
  split <;> simp

/-- `if c { w.Write(a) } else { w.Write(b) }` -/
theorem ite_append_left {α} (c : Prop) [Decidable c] (s a b : List α) :
    (if c then s ++ a else s ++ b) = s ++ (if c then a else b) := by
  split <;> rfl

/-- `if s != "" { w.Write(s) }` -/
theorem append_if_ne_nil (w s : Str) : (if (s != ([] : Str)) = true then w ++ s else w) = w ++ s := by
  cases s <;> simp

theorem isPrefixOf_single (c : UInt8) (t : Str) : Str.isPrefixOf [c] t = (t.head? == some c) := by
  cases t with
  | nil => simp [Str.isPrefixOf]
  | cons x xs =>
    simp only [Str.isPrefixOf, Bool.and_true, List.head?_cons, Option.some_beq_some]
    exact Bool.beq_comm

theorem hasSuffix_single (c : UInt8) (s : Str) : hasSuffix s [c] = (s.getLast? == some c) := by
  unfold hasSuffix
  rw [List.reverse_singleton, isPrefixOf_single, List.head?_reverse]

theorem hasSub_single (c : UInt8) (s : Str) : Str.hasSub s [c] = s.elem c := by
  induction s with
  | nil => rfl
  | cons x xs ih =>
    unfold Str.hasSub
    rw [ih, isPrefixOf_single]
    simp only [List.head?_cons, Option.some_beq_some, List.elem_cons]
    rw [Bool.beq_comm]
    cases (c == x) <;> rfl

/-- `for _, x := range l { acc = append(acc, g(x)) }` -/
theorem foldl_snoc_map {α β : Type _} (g : α → β) (l : List α) (acc : List β) :
    l.foldl (fun a x => a ++ [g x]) acc = acc ++ l.map g := by
  induction l generalizing acc with
  | nil => simp
  | cons x xs ih => simp [ih, List.append_assoc]

/-- `for _, x := range l { w.Write(g(x)) }` -/
theorem foldl_append_flatten {α β : Type _} (g : α → List β) (l : List α) (acc : List β) :
    l.foldl (fun a x => a ++ g x) acc = acc ++ (l.map g).flatten := by
  induction l generalizing acc with
  | nil => simp
  | cons x xs ih => simp [ih, List.append_assoc]

theorem getDef_of_mem {m : List (Str × Def)} (nd : (m.map (·.1)).Nodup) {e : Str × Def} (he : e ∈ m) :
    getDef m e.1 = e.2 := by rw [getDef, AList.lookup_of_mem nd he]; rfl

theorem getStr_of_mem {m : List (Str × Str)} (nd : (m.map (·.1)).Nodup) {e : Str × Str} (he : e ∈ m) :
    getStr m e.1 = e.2 := by rw [getStr, AList.lookup_of_mem nd he]; rfl

/-- `keys := …; sort.Strings(keys); for _, k := range keys { … m[k] … }`: ranging over a Go map in
    sorted key order is ranging over its entries sorted by key (`G` is the loop body with its `m[k]`,
    `H` the same on an entry).  Sorting commutes with the projection (`List.map_mergeSort`): no order
    property of `Str.le` is used. -/
theorem range_sorted {β γ : Type _} (m : List (Str × β)) (le : Str × β → Str × β → Bool)
    (hle : ∀ a b, le a b = Str.le a.1 b.1) (G : Str → γ) (H : Str × β → γ) (hGH : ∀ e ∈ m, G e.1 = H e) :
    (sortStrings (m.map (·.1))).map G = (m.mergeSort le).map H := by
  have hs : sortStrings (m.map (·.1)) = (m.mergeSort le).map (·.1) :=
    (List.map_mergeSort (r := le) (s := Str.le) (f := (·.1)) (fun a _ b _ => hle a b)).symm
  rw [hs, List.map_map]
  exact List.map_congr_left fun e he => hGH e (mem_mergeSort.1 he)

end Go
