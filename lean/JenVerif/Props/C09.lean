import JenVerif.Lemmas.Frame
import JenVerif.Gen.Globals
/-
  C09 — Files do not interfere: no hidden global state, safe to build concurrently.

  What Lean carries: (1) the regenerated fact that package jen has no writable package-level
  state; (2) non-interference of any interleaving of operations on several Files in the model,
  where all state is explicit; (3) a Code value shared by Files renders in each File as a
  function of THAT File's state only (the tree is an immutable value: after the D5 repair
  rendering mutates nothing in it).  What Lean cannot exhibit: the Go memory model and the
  scheduler ("free of data races") — supported by the race detector run of the harness.
-/
namespace C09
open Code

/-- OBLIGATION (regenerated): no function of package jen (outside `init`) writes — assigns,
    appends to, increments, deletes from, takes the address of — a package-level variable, calls a
    method on one (other than a compiled regexp, which is read-only) or hands one to another
    function: the package-level variables are inert tables, there is no hidden global state -/
theorem no_global_state : Gen.globalWrites = [] ∧ Gen.globalSuspicious = [] := by
  decide

/-- operations on one File; a history over a family of Files pairs each with the index of its File -/
inductive Op
  | hintName (p n : Str)
  | hintAlias (p n : Str)
  | anon (p : Str)
  | render (body : List Code)
  | frag (c : Code)

def Op.run (cfg : Cfg) (f : FileS) : Op → FileS × Option Str
  | .hintName p n => (Registry.importName f p n, none)
  | .hintAlias p n => (Registry.importAlias f p n, none)
  | .anon p => (Registry.anon f p, none)
  | .render body => ((renderFileRaw cfg f body).2, some (renderFileRaw cfg f body).1)
  | .frag c => ((renderS cfg f none c).2, some (renderS cfg f none c).1)

abbrev Files := Nat → FileS

def upd (fs : Files) (i : Nat) (f : FileS) : Files := fun j => if j = i then f else fs j

/-- run an interleaved history; collect (file index, output) of every render -/
def runAll (cfg : Cfg) : Files → List (Nat × Op) → Files × List (Nat × Str)
  | fs, [] => (fs, [])
  | fs, (i, op) :: rest =>
    let r := op.run cfg (fs i)
    let t := runAll cfg (upd fs i r.1) rest
    (t.1, (match r.2 with | some o => [(i, o)] | none => []) ++ t.2)

/-- run the projection of the history on file i alone -/
def runOne (cfg : Cfg) : FileS → List Op → FileS × List Str
  | f, [] => (f, [])
  | f, op :: rest =>
    let r := op.run cfg f
    let t := runOne cfg r.1 rest
    (t.1, (match r.2 with | some o => [o] | none => []) ++ t.2)

def proj (i : Nat) (h : List (Nat × Op)) : List Op := (h.filter fun e => e.1 == i).map (·.2)

def outs (i : Nat) (o : List (Nat × Str)) : List Str := (o.filter fun e => e.1 == i).map (·.2)

/-- NON-INTERFERENCE: in every interleaved history over any number of Files, the outputs of
    File i's renders and its final state are those of the history projected on File i — building
    or rendering other Files before or in between never changes them -/
theorem noninterference (cfg : Cfg) (i : Nat) : ∀ (h : List (Nat × Op)) (fs : Files),
    (runAll cfg fs h).1 i = (runOne cfg (fs i) (proj i h)).1 ∧
    outs i (runAll cfg fs h).2 = (runOne cfg (fs i) (proj i h)).2
  | [], _ => ⟨rfl, rfl⟩
  | (j, op) :: rest, fs => by
      have ih := noninterference cfg i rest (upd fs j (op.run cfg (fs j)).1)
      by_cases hj : j = i
      · subst hj
        rw [show upd fs j (op.run cfg (fs j)).1 j = (op.run cfg (fs j)).1 from if_pos rfl] at ih
        rw [show proj j ((j, op) :: rest) = op :: proj j rest by simp [proj]]
        refine ⟨ih.1, ?_⟩
        show outs j (_ ++ _) = _ ++ _
        rw [← ih.2]
        cases (op.run cfg (fs j)).2 <;> simp [outs]
      · have hji : (j == i) = false := beq_false_of_ne hj
        rw [show upd fs j (op.run cfg (fs j)).1 i = fs i from if_neg (Ne.symm hj)] at ih
        rw [show proj i ((j, op) :: rest) = proj i rest by simp [proj, hji]]
        refine ⟨ih.1, ?_⟩
        show outs i (_ ++ _) = _
        rw [← ih.2]
        cases (op.run cfg (fs j)).2 <;> simp [outs, hji]

/-- a Code value shared by Files rendered one after another renders in File B exactly as in a
    history without File A: rendering is a function of (the File's state, the value) -/
theorem shared_code_per_file (cfg : Cfg) (c : Code) (fa fb : FileS) :
    (runAll cfg (fun j => if j = 0 then fa else fb) [(0, .frag c), (1, .frag c)]).2 =
      [(0, (renderS cfg fa none c).1), (1, (renderS cfg fb none c).1)] := rfl

/-- the text a File renders for a code depends on the registry fields of the File's state only
    (path, imports, hints, prefix); the other fields are read only by the head of the file -/
theorem output_depends_only_on_own_state (cfg : Cfg) (f g : FileS) (prev : Option Code) (c : Code) :
    (renderS cfg (Frame.setRest f g) prev c).1 = (renderS cfg f prev c).1 := (Frame.renderS_frame cfg c f g prev).1

end C09
