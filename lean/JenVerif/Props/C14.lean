import JenVerif.Lemmas.HeapLemmas
import JenVerif.Lemmas.Effects
import JenVerif.Gen.Api
import JenVerif.Gen.Constructs
import JenVerif.Gen.Tokens
import JenVerif.Lemmas.TableCheck
/-
  C14 — All forms of a construct are equivalent; callbacks run once, at build time.

  Tie: `Gen.api` is regenerated from /repo on every check; each exported function/method body is
  classified into a SHAPE by matching its normalised statements (translator/main.go `shapeOf`):
    delegateToNew            func X(a…) *Statement { return newStatement().X(a…) }
    groupAppend              func (g *Group) X(a…) *Statement { s := X(a…); g.items = append(g.items, s); return s }
    stmtAppendGroup          func (s *Statement) X(a…) … { g := &Group{…}; *s = append(*s, g); return s }
    stmtAppendGroupCallback  … g := &Group{…}; f(g); *s = append(*s, g); return s
    stmtAppendToken / stmtAppendOther / stmtAppendItems / evalCallbackThenAppend / callbackOnSelf
    cloneWrap                func (s *Statement) Clone() *Statement { return &Statement{s} }
  Anything else is `other`.  The heap semantics of the three forms (Statement method, package
  function, Group method) is defined below (`Clone` is `Heap.clone`, Props/C20); the theorems about
  the forms are proved once per form, and the table obligations say which entries of `Gen.api` have
  which shape.
-/
namespace C14
open Heap Gen

/-- methods that are not constructs (rendering, cloning, file settings …) -/
def nonConstructs : List Str := [b!"Anon", b!"CgoPreamble", b!"Clone", b!"DictFunc", b!"GoString",
  b!"HeaderComment", b!"ImportAlias", b!"ImportName", b!"ImportNames", b!"IsReservedWord", b!"NewFile",
  b!"NewFilePath", b!"NewFilePathName", b!"PackageComment", b!"Render", b!"RenderWithFile", b!"Save"]

/-- OBLIGATION: every construct-like API entry has a recognised shape -/
theorem shapes_recognised :
    Gen.api.all (fun d => d.shape != Shape.other || nonConstructs.contains d.name) = true := by
  decide +kernel

def isStmtConstruct (d : ApiEntry) : Bool :=
  d.recv == Recv.stmt && d.shape != Shape.other && d.shape != Shape.cloneWrap

/-- OBLIGATION: every construct exists in all three forms: a package function that delegates to
    the Statement method on a new statement, and a Group method that builds through the function
    form, appends the new statement to the group and returns it -/
theorem forms_complete :
    Gen.api.all (fun d => !isStmtConstruct d ||
      (Gen.api.any (fun x => x.name == d.name && x.recv == Recv.func &&
          x.shape == Shape.delegateToNew && x.nparams == d.nparams && x.variadic == d.variadic) &&
       Gen.api.any (fun x => x.name == d.name && x.recv == Recv.group &&
          x.shape == Shape.groupAppend && x.nparams == d.nparams && x.variadic == d.variadic))) =
      true := by
  simp only [Bool.or_and_distrib_left, TableCheck.all_and, Bool.and_eq_true]
  constructor <;> apply TableCheck.all_or_any_of_anyFrom <;> decide +kernel

/-- … and no package function or Group method exists without its Statement method -/
theorem no_orphan_forms :
    Gen.api.all (fun d => !((d.recv == Recv.func && d.shape == Shape.delegateToNew) ||
        (d.recv == Recv.group && d.shape == Shape.groupAppend)) ||
      Gen.api.any (fun x => x.name == d.name && isStmtConstruct x)) = true := by
  apply TableCheck.all_or_any_of_anyFrom
  decide +kernel

/-- variadic constructs that deliberately have no Func variant (genjen/data.go `preventFunc`) -/
def preventFunc : List Str := [b!"Make"]

/-- OBLIGATION: every variadic group construct with fixed delimiters (`dynamic = false`: all but
    `Custom`, whose delimiters are arguments) has a …Func variant built from the SAME
    name/open/close/separator/multi (so the two render identically on the same items) -/
theorem funcvariants_complete :
    Gen.constructs.all (fun c => !(c.arity == Arity.variadic && !c.dynamic) ||
      preventFunc.contains c.api ||
      Gen.constructs.any (fun x => x.api == c.api ++ b!"Func" && x.arity == Arity.callback &&
        x.info == c.info)) = true := by
  apply TableCheck.all_or_any_of_anyFrom
  decide +kernel

/-- OBLIGATION: a Func variant never exists with different delimiters than its plain form -/
theorem funcvariants_same_group :
    Gen.constructs.all (fun x => !(x.arity == Arity.callback) ||
      Gen.constructs.any (fun c => c.api ++ b!"Func" == x.api && c.info == x.info &&
        c.dynamic == x.dynamic)) = true := by
  apply TableCheck.all_or_any_of_anyFrom
  decide +kernel

/-- statement form: append the built item to the receiver, in place; return the receiver -/
def stmtForm (h : Heap) (s : Nat) (item : HCode) : Heap := append h s [item]

/-- function form `newStatement().X(a…)`: the Statement method on a fresh, empty statement -/
def funcForm (h : Heap) (fresh : Nat) (item : HCode) : Heap := stmtForm (set h fresh []) fresh item

/-- group form: build through the function form, append the new statement to the group, return it -/
def groupForm (h : Heap) (items : List HCode) (fresh : Nat) (item : HCode) :
    Heap × List HCode × Nat :=
  (funcForm h fresh item, items ++ [.ref fresh], fresh)

/-- the function form yields a statement holding exactly the item the method form would append
    to an empty statement -/
theorem func_eq_method_on_new (h : Heap) (fresh : Nat) (item : HCode) :
    get (funcForm h fresh item) fresh = [item] := by
  rw [funcForm, stmtForm, Heap.append, get_set_self, get_set_self]; rfl

/-- the Group form returns that same statement AND the group's items grew by exactly it -/
theorem group_form_appends_and_returns (h : Heap) (items : List HCode) (fresh : Nat)
    (item : HCode) :
    let r := groupForm h items fresh item
    get r.1 r.2.2 = [item] ∧ r.2.1 = items ++ [.ref r.2.2] :=
  ⟨func_eq_method_on_new h fresh item, rfl⟩

/-- in the heap model a Func variant starts from the empty group, so a callback that adds the items
    `xs` leaves `[] ++ xs`: the group of the variadic form called with `xs` (same `GInfo` by
    `funcvariants_complete`) -/
theorem funcvariant_eq_variadic (g : GInfo) (xs : List HCode) :
    (HCode.group g ([] ++ xs)) = HCode.group g xs := rfl

/-- rendering never runs user code: no constructor of `Code` carries a function, so `renderS` /
    `renderP` are functions of first-order data only.  The render entry points of a Statement or
    Group are ONE function of the model: `Render(w)` is `RenderWithFile(w, NewFile(""))` by
    definition, and `GoString()` returns exactly the bytes that `Render` hands to its writer — for
    every tree, every formatter and every writer (whether or not the writer accepts them) — and
    succeeds whenever `Render` does. -/
theorem render_entrypoints_agree (w : World) (cfg : Cfg) (c : Code) :
    fragRenderFresh w cfg c = fragRender w cfg (Registry.newFile []) c ∧
    (fragGoString w.gofmt cfg c).2.1 = Effect.written (fragRenderFresh w cfg c).2.1 ∧
    ((fragRenderFresh w cfg c).1 = .ok → (fragGoString w.gofmt cfg c).1 = .ok) ∧
    ((fragGoString w.gofmt cfg c).1 = .ok →
      (fragRenderFresh w cfg c).1 = .ok ∨ (fragRenderFresh w cfg c).1 = .errWriter) := by
  have h := Effects.goStringFrom_buffered w false (Code.misuse (Registry.newFile []).np c)
    (Code.renderS cfg (Registry.newFile []) none c).1 (Code.renderS cfg (Registry.newFile []) none c).2
  exact ⟨rfl, h.1, h.2.2⟩

/-- the same for a File: `GoString` is `Render` into a buffer -/
theorem file_gostring_is_render (w : World) (cfg : Cfg) (f : FileS) (body : List Code) :
    (fileGoString w.gofmt cfg f body).2.1 = Effect.written (fileRender w cfg f body).2.1 ∧
    (fileGoString w.gofmt cfg f body).2.2 = (fileRender w cfg f body).2.2 ∧
    ((fileRender w cfg f body).1 = .ok → (fileGoString w.gofmt cfg f body).1 = .ok) := by
  have h := Effects.goStringFrom_buffered w f.noFormat (Code.misuse f.np (.group Code.fileInfo body))
    (renderFileRaw cfg f body).1 (renderFileRaw cfg f body).2
  exact ⟨h.1, h.2.1, h.2.2.1⟩

/-- OBLIGATION: every `*Statement` method that takes a callback has a shape that CALLS it inside
    the constructing function (`f(g)`, `f()`, `f(s)`) — checked on the regenerated bodies; a
    lazily stored callback would be shape `other` -/
theorem callbacks_run_at_build :
    Gen.api.all (fun d => !(d.takesFunc && d.recv == Recv.stmt) ||
      d.shape == Shape.stmtAppendGroupCallback || d.shape == Shape.evalCallbackThenAppend ||
      d.shape == Shape.callbackOnSelf) = true := by
  decide +kernel

-- non-vacuity: the table has the Func variant of Call, with the shape that calls the callback
example :
    Gen.api.any (fun d => d.name == b!"CallFunc" && d.shape == Shape.stmtAppendGroupCallback) =
      true := by decide +kernel

end C14
