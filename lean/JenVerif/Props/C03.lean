import JenVerif.Props.Common
import JenVerif.Lemmas.Refine
import JenVerif.Lemmas.PermLemmas
/-
  C03 — Every qualified identifier resolves to the package it was built with.
-/
namespace C03
open Code Registry RegistryInv RegistryGood Refine Frame PermLemmas

/-- the unformatted file is: head ++ import block ++ body, where the body is the PURE rendering
    under the FINAL table `f1` and the import block is printed from that same table: a
    qualifier written for path p is exactly `(lookupImp f1 p).name`, in every place of the file -/
theorem file_uses_final_table {cfg : Cfg} {f : FileS} (hH : HintsOk f) (hS : StdOk cfg)
    (body : List Code) :
    let f1 := (renderFileRaw cfg f body).2
    (renderFileRaw cfg f body).1 =
      fileHead cfg.isPrint f1 ++ renderImports cfg.isPrint f1 ++
        renderP cfg (envOf f1) none (.group fileInfo body) ∧
    ∀ p, renderP cfg (envOf f1) none (.tok .pkg p) = (lookupImp f1 p).name :=
  ⟨(renderFileRaw_pure cfg f body (good_of_hintsOk hH hS)).2, fun _ => rfl⟩

/-- the same path is referred to by the same qualifier everywhere, also across later renders:
    a registered name never changes -/
theorem same_path_same_name (cfg : Cfg) (f : FileS) (p q : Str) (hq : isReg f q = true) :
    lookupImp (register cfg f p).2 q = lookupImp f q := register_keeps hq

/-- the import block as a function of the table: the specs of its entries (except "C" when a
    preamble exists) in the order of `importsMain`, then the cgo block -/
theorem block_lists_table (isPrint : Nat → Bool) (f : FileS) :
    renderImports isPrint f =
      importsMain isPrint (f.imports.filter fun e => !(e.1 == b!"C" && !f.cgo.isEmpty)) ++
        (if !f.cgo.isEmpty then commentLines f.cgo ++ b!"import \"C\"\n\n" else []) :=
  renderImports_eq isPrint f

/-- … and the spec for path p binds exactly the registered name: `name "p"` for an alias,
    `"p"` alone otherwise -/
theorem spec_binds_name (isPrint : Nat → Bool) (p : Str) (d : Def) (hC : p ≠ b!"C") :
    importSpec isPrint (p, d) =
      if d.alias then d.name ++ b!" " ++ Quote.quote isPrint p else Quote.quote isPrint p := by
  simp [importSpec, hC]

/-- when no alias is written, the qualifier is the package's real name: the user's ImportName
    or the standard-library table's entry — never a guess -/
theorem unaliased_is_real_name (cfg : Cfg) (f : FileS) (p : Str)
    (h : (chooseDef cfg f p).alias = false) :
    ((lookupHint f p).name ≠ [] ∧ (lookupHint f p).alias = false ∧
      (chooseDef cfg f p).name = (lookupHint f p).name) ∨
    ((lookupHint f p).name = [] ∧ stdHint cfg p ≠ [] ∧ (chooseDef cfg f p).name = stdHint cfg p) :=
  RegistryInv.unaliased_is_real_name cfg f p h

/-- if the uniquifier or the prefix changed the candidate, the entry is an explicit alias: a
    name the package does not declare is never left un-aliased -/
theorem renamed_is_aliased (cfg : Cfg) (f : FileS) (p : Str) :
    (chooseDef cfg f p).name ≠ (chooseBase cfg f p).1 → (chooseDef cfg f p).alias = true :=
  RegistryInv.renamed_is_aliased cfg f p

/-- a path first Anon'd and then referenced is registered under a real name, never `_` -/
theorem anon_then_referenced {cfg : Cfg} {f : FileS} (hH : HintsOk f) (hS : StdOk cfg) (p : Str)
    (hl : isLocal f p = false) :
    let f' := anon f p
    (register cfg f' p).1 ≠ b!"_" ∧ (register cfg f' p).1 ≠ [] ∧
    (lookupImp (register cfg f' p).2 p).name = (register cfg f' p).1 := by
  have := register_returns_stored (cfg := cfg) (anon_hintsOk hH p) hS (p := p) hl
  exact ⟨this.2.2, this.2.1, this.1⟩

/-- every referenced non-local path is in the table under a real name after the render, so its
    qualifier is bound by the block (C04 gives exactness) -/
theorem referenced_is_bound {cfg : Cfg} {f : FileS} (hH : HintsOk f) (hS : StdOk cfg)
    (body : List Code) (p : Str) (hv : visitsItems f.np body p = true) (hl : isLocal f p = false) :
    isReg (renderFileRaw cfg f body).2 p = true :=
  (file_imports_exact cfg f body (good_of_hintsOk hH hS) p).2 hv hl

/-- COMPOSITE: after rendering a File, for every referenced non-local path p: the table has
    exactly one entry for p, its name d.name is what every reference to p prints, it is a real
    name (never "", never `_`), and the import block's spec for p is `d.name "p"` when d is an
    alias and `"p"` when it is not — in which case d.name is the user's ImportName or the
    standard-library table's name.  (A dot import is the alias ".": references print bare.) -/
theorem qualifier_is_bound {cfg : Cfg} {f : FileS} (hH : HintsOk f) (hS : StdOk cfg)
    (hI : Inv cfg f) (hI1 : Inv cfg (renderFileRaw cfg f body).2) (p : Str)
    (hv : visitsItems f.np body p = true) (hl : isLocal f p = false) (hC : p ≠ b!"C") :
    let f1 := (renderFileRaw cfg f body).2
    let d := lookupImp f1 p
    (p, d) ∈ f1.imports ∧ d.name ≠ [] ∧ d.name ≠ b!"_" ∧
    renderP cfg (envOf f1) none (.tok .pkg p) = d.name ∧
    (∀ e, (p, e) ∈ f1.imports → e = d) ∧
    importSpec cfg.isPrint (p, d) =
      (if d.alias then d.name ++ b!" " ++ Quote.quote cfg.isPrint p else Quote.quote cfg.isPrint p) := by
  have hn := (isReg_iff _ p).mp (referenced_is_bound hH hS body p hv hl)
  refine ⟨lookupImp_mem hn.1, hn.1, hn.2, rfl, fun e he => ?_, spec_binds_name cfg.isPrint p _ hC⟩
  have : AList.lookup (renderFileRaw cfg f body).2.imports p = some e :=
    lookup_of_mem_nodup hI1.keysDistinct he
  simp [lookupImp, this]
where
  lookup_of_mem_nodup {β} {m : List (Str × β)} {k : Str} {v : β} (nd : (m.map (·.1)).Nodup)
      (h : (k, v) ∈ m) : AList.lookup m k = some v := AList.lookup_of_mem nd h

end C03
