import JenVerif.Lemmas.RegistryGood
import JenVerif.Gen.Reserved
import JenVerif.Gen.StdHints
/-
  Instantiation of the model's parameters with the tables REGENERATED from /repo:
  `reserved` (jen/reserved.go) and `standardLibraryHints` (jen/hints.go).
  `isValidAlias` additionally rejects the name `C` (taken by cgo), hence `b!"C" :: Gen.reserved`.
-/
namespace Props
open RegistryInv

def cfgOf (toLower : Str → Str) (isPrint : Nat → Bool) : Cfg :=
  { toLower := toLower, isPrint := isPrint, reserved := b!"C" :: Gen.reserved, stdHints := Gen.stdHints }

/-- decidable form of `StdOk` over the regenerated table -/
def stdOkB (t : List (Str × Str)) : Bool := t.all fun e => e.2.isEmpty || (isIdent e.2 && e.2 != b!"_")

theorem stdOk_of_check {cfg : Cfg} (h : stdOkB cfg.stdHints = true) : StdOk cfg := by
  intro p n hm
  simpa only [Bool.or_eq_true, Bool.and_eq_true, List.isEmpty_iff, bne_iff_ne, ne_eq] using
    List.all_eq_true.mp h (p, n) hm

/-- OBLIGATION (regenerated table): every name in `standardLibraryHints` is an identifier -/
theorem stdHints_check : stdOkB Gen.stdHints = true := by decide +kernel

theorem stdOk (toLower : Str → Str) (isPrint : Nat → Bool) : StdOk (cfgOf toLower isPrint) :=
  stdOk_of_check stdHints_check

end Props
