import JenVerif.Lemmas.Effects
/-
  C10 — Failure atomicity and error propagation for Render and Save.
  Statements over the effect model (T-E): for EVERY environment (formatter result, writer
  behaviour, filesystem behaviour), every file state and every tree.
-/
namespace C10

def isWrite : Effect → Bool
  | .callerWrite _ => true
  | _ => false

def isFsWrite : Effect → Bool
  | .fsWrite _ => true
  | _ => false

@[simp] theorem isWrite_write (b : Str) : isWrite (.callerWrite b) = true := rfl
@[simp] theorem isWrite_format (b : Str) : isWrite (.format b) = false := rfl
@[simp] theorem isWrite_fs (b : Str) : isWrite (.fsWrite b) = false := rfl
@[simp] theorem isFsWrite_write (b : Str) : isFsWrite (.callerWrite b) = false := rfl
@[simp] theorem isFsWrite_format (b : Str) : isFsWrite (.format b) = false := rfl
@[simp] theorem isFsWrite_fs (b : Str) : isFsWrite (.fsWrite b) = true := rfl

/-- the caller's writer is touched at most once, and only with the text to be written: never on
    misuse, and when formatting is enabled only with what the formatter returned -/
theorem writes_only_after_success (w : World) (noFormat mis : Bool) (raw : Str) :
    let r := fileRenderFrom w noFormat mis raw
    (r.2.filter isWrite).length ≤ 1 ∧
    (∀ b, Effect.callerWrite b ∈ r.2 →
        mis = false ∧ (if noFormat then some raw else w.gofmt raw) = some b) := by
  refine ⟨?_, fun b => (Effects.callerWrite_mem_iff w noFormat mis raw b).1⟩
  rw [Effects.fileRenderFrom_eq]
  cases mis
  · cases (if noFormat then some raw else w.gofmt raw) with
    | none => exact Nat.zero_le 1
    | some out => cases noFormat <;> exact Nat.le_refl 1
  · exact Nat.zero_le 1

/-- for File.Render -/
theorem render_writes_only_after_success (w : World) (cfg : Cfg) (f : FileS) (body : List Code) :
    let r := fileRender w cfg f body
    (r.2.1.filter isWrite).length ≤ 1 ∧
    (∀ b, Effect.callerWrite b ∈ r.2.1 →
        Code.misuse f.np (.group Code.fileInfo body) = false ∧
        (f.noFormat = true ∧ b = (renderFileRaw cfg f body).1 ∨
         f.noFormat = false ∧ w.gofmt (renderFileRaw cfg f body).1 = some b)) := by
  have h := writes_only_after_success w f.noFormat (Code.misuse f.np (.group Code.fileInfo body))
    (renderFileRaw cfg f body).1
  refine ⟨h.1, fun b hb => ⟨(h.2 b hb).1, ?_⟩⟩
  have ho := (h.2 b hb).2
  revert ho
  cases f.noFormat
  · exact fun ho => Or.inr ⟨rfl, ho⟩
  · exact fun ho => Or.inl ⟨rfl, (Option.some.inj ho).symm⟩

/-- for Statement/Group.RenderWithFile, which always formats -/
theorem fragment_writes_only_after_success (w : World) (cfg : Cfg) (f : FileS) (c : Code) :
    let r := fragRender w cfg f c
    (r.2.1.filter isWrite).length ≤ 1 ∧
    (∀ b, Effect.callerWrite b ∈ r.2.1 →
        Code.misuse f.np c = false ∧ w.gofmt (Code.renderS cfg f none c).1 = some b) :=
  writes_only_after_success w false _ _

/-- success means: exactly one write, of exactly the output, accepted by the writer -/
theorem ok_iff_written (w : World) (noFormat mis : Bool) (raw : Str) :
    (fileRenderFrom w noFormat mis raw).1 = .ok ↔
      mis = false ∧ ∃ out, (if noFormat then some raw else w.gofmt raw) = some out ∧
        w.writer out = true ∧
        (fileRenderFrom w noFormat mis raw).2.filter isWrite = [.callerWrite out] := by
  constructor
  · intro h
    obtain ⟨hm, out, ho, hw, ht⟩ := Effects.ok_trace h
    exact ⟨hm, out, ho, hw, by rw [ht]; cases noFormat <;> rfl⟩
  · rintro ⟨rfl, out, ho, hw, -⟩
    rw [Effects.fileRenderFrom_eq, ho]
    exact if_pos hw

/-- errors propagate: a writer error, a formatter error (carrying the unformatted text) and a
    misuse error are returned, never swallowed -/
theorem errors_propagate (w : World) (noFormat : Bool) (raw : Str) :
    ((if noFormat then some raw else w.gofmt raw) = none →
        (fileRenderFrom w noFormat false raw).1 = .errFormat raw) ∧
    (∀ out, (if noFormat then some raw else w.gofmt raw) = some out → w.writer out = false →
        (fileRenderFrom w noFormat false raw).1 = .errWriter) ∧
    (fileRenderFrom w noFormat true raw).1 = .errMisuse := by
  simp only [Effects.fileRenderFrom_eq]
  refine ⟨fun h => ?_, fun out h hw => ?_, rfl⟩
  · simp [h]
  · simp [h, hw]

/-- Save touches the filesystem only after Render succeeded, writes exactly the rendered output,
    and returns the filesystem's error -/
theorem save_untouched_on_failure (w : World) (noFormat mis : Bool) (raw : Str) :
    let r := fileSaveFrom w noFormat mis raw
    (∀ b, Effect.fsWrite b ∈ r.2 →
        mis = false ∧ (if noFormat then some raw else w.gofmt raw) = some b) ∧
    (r.2.filter isFsWrite).length ≤ 1 ∧
    (r.1 = .ok → ∃ b, Effect.fsWrite b ∈ r.2 ∧ w.fs b = true) ∧
    (∀ b, Effect.fsWrite b ∈ r.2 → w.fs b = false → r.1 = .errFs) ∧
    (∀ b, Effect.callerWrite b ∉ r.2) := by
  rw [Effects.fileSaveFrom_eq]
  cases mis
  · cases (if noFormat then some raw else w.gofmt raw) with
    | none => simp
    | some out =>
      refine ⟨?_, ?_, ?_⟩
      · simp +contextual
      · cases noFormat <;> exact Nat.le_refl _
      · simp +contextual
  · simp

/-- the file state after Save/Render does not depend on the environment (writers, formatter) -/
theorem state_independent_of_world (w₁ w₂ : World) (cfg : Cfg) (f : FileS) (body : List Code) :
    (fileRender w₁ cfg f body).2.2 = (fileRender w₂ cfg f body).2.2 ∧
    (fileSave w₁ cfg f body).2.2 = (fileRender w₂ cfg f body).2.2 :=
  ⟨rfl, rfl⟩

-- non-vacuity: a concrete successful and a concrete failing run
example :
    (fileRenderFrom ⟨fun s => some (s ++ [10]), fun _ => true, fun _ => true⟩ false false b!"x").1 =
      .ok := by decide

example :
    (fileSaveFrom ⟨fun _ => none, fun _ => true, fun _ => true⟩ false false b!"x") =
      (.errFormat b!"x", [.format b!"x"]) := by decide

end C10
