import JenVerif.Lemmas.Frame
import JenVerif.Lemmas.Effects
/-
  C02 — A successful render is valid Go and exactly gofmt of the raw rendering.

  The formatter is a parameter (`World.gofmt`; `none` = rejected).  The theorems hold for every
  formatter, writer, file state and tree (valid or nonsensical).
-/
namespace C02
open Code Frame

/-- the formatted mode and the NoFormat mode differ ONLY in the final formatting step: same raw
    source, same registry afterwards -/
theorem modes_share_raw (cfg : Cfg) (f : FileS) (body : List Code) (b : Bool) :
    (renderFileRaw cfg { f with noFormat := b } body).1 = (renderFileRaw cfg f body).1 ∧
    (renderFileRaw cfg { f with noFormat := b } body).2 =
      { (renderFileRaw cfg f body).2 with noFormat := b } :=
  noFormat_irrelevant cfg f body b

/-- what a formatted File.Render writes is exactly gofmt applied to what the identically built
    NoFormat file writes -/
theorem formatted_is_gofmt_of_raw (w : World) (cfg : Cfg) (f : FileS) (body : List Code)
    (out raw : Str)
    (h1 : Effect.callerWrite out ∈ (fileRender w cfg { f with noFormat := false } body).2.1)
    (h2 : Effect.callerWrite raw ∈ (fileRender w cfg { f with noFormat := true } body).2.1) :
    w.gofmt raw = some out := by
  have h1 : w.gofmt _ = some out := ((Effects.callerWrite_mem_iff w false _ _ out).1 h1).2
  have h2 : some _ = some raw := ((Effects.callerWrite_mem_iff w true _ _ raw).1 h2).2
  rw [← Option.some.inj h2, (modes_share_raw cfg f body true).1,
    ← (modes_share_raw cfg f body false).1]
  exact h1

/-- no success path bypasses the formatter, none applies it twice -/
theorem ok_implies_formatter_accepted (w : World) (cfg : Cfg) (f : FileS) (body : List Code)
    (hf : f.noFormat = false)
    (hok : (fileRender w cfg f body).1 = .ok) :
    ∃ out, w.gofmt (renderFileRaw cfg f body).1 = some out ∧
      (fileRender w cfg f body).2.1 = [.format (renderFileRaw cfg f body).1, .callerWrite out] := by
  simp only [fileRender, hf] at hok ⊢
  obtain ⟨-, out, ho, -, ht⟩ := Effects.ok_trace hok
  exact ⟨out, ho, ht⟩

/-- fragments (Statement/Group render) always go through the formatter -/
theorem fragment_is_gofmt_of_raw (w : World) (cfg : Cfg) (f : FileS) (c : Code)
    (hok : (fragRender w cfg f c).1 = .ok) :
    ∃ out, w.gofmt (renderS cfg f none c).1 = some out ∧
      Effect.callerWrite out ∈ (fragRender w cfg f c).2.1 := by
  obtain ⟨hm, out, ho, -, -⟩ := Effects.ok_trace hok
  exact ⟨out, ho, (Effects.callerWrite_mem_iff w false _ _ out).2 ⟨hm, ho⟩⟩

/-- an invalid composition is reported as an ERROR: a render ends in ok / misuse error / formatter
    error (with the unformatted text) / writer error.  That there is no panic among the outcomes
    is a decision of the model (`Result` has none; the renderer is a total function, nil items
    included), which mirrors the code after the D4/D10 repairs -/
theorem never_a_panic (w : World) (cfg : Cfg) (f : FileS) (body : List Code) :
    (fileRender w cfg f body).1 = .ok ∨ (fileRender w cfg f body).1 = .errMisuse ∨
    (fileRender w cfg f body).1 = .errFormat (renderFileRaw cfg f body).1 ∨
    (fileRender w cfg f body).1 = .errWriter := by
  simp only [fileRender]
  rw [Effects.fileRenderFrom_eq]
  generalize (renderFileRaw cfg f body).1 = raw
  cases misuse f.np (.group fileInfo body)
  · cases (if f.noFormat then some raw else w.gofmt raw) with
    | none => simp
    | some o => cases hw : w.writer o <;> simp [hw]
  · simp

/-- a formatter rejection is never emitted as if valid: nothing is written -/
theorem rejected_not_emitted (w : World) (cfg : Cfg) (f : FileS) (body : List Code)
    (hf : f.noFormat = false) (hg : w.gofmt (renderFileRaw cfg f body).1 = none)
    (hm : misuse f.np (.group fileInfo body) = false) :
    (fileRender w cfg f body).1 = .errFormat (renderFileRaw cfg f body).1 ∧
    ∀ b, Effect.callerWrite b ∉ (fileRender w cfg f body).2.1 := by
  simp [fileRender, Effects.fileRenderFrom_eq, hf, hg, hm]

end C02
