import JenVerif.Lemmas.QuoteRT
import JenVerif.Lemmas.LitRT
import JenVerif.Gen.IsPrint
/-
  C12 — String, rune and byte literals preserve their exact content.
  Spec side: `GoLex` (how the Go specification reads string and rune literals).
  `strconv.IsPrint` is a parameter; theorems assume `PSafe` only, which is PROVED below for the
  table regenerated from the installed toolchain.
-/
namespace C12
open Quote

/-- every byte string — invalid UTF-8, control characters, quotes, newlines included — reads
    back to exactly itself, and the reader stops exactly at the closing quote (nothing leaks) -/
theorem string_roundtrip {isPrint : Nat → Bool} (h : PSafe isPrint) (s rest : Str) :
    GoLex.readString (Lit.render isPrint (.str s) ++ rest) = some (s, rest) :=
  QuoteRT.string_roundtrip h s rest

/-- the literal is one line of legal source: no raw newline, NUL or BOM, valid UTF-8 -/
theorem string_one_line {isPrint : Nat → Bool} (h : PSafe isPrint) (s : Str) :
    (10 ∉ quote isPrint s ∧ 0 ∉ quote isPrint s) ∧
    GoLex.scanLine (quote isPrint s).length (quote isPrint s) = true :=
  ⟨QuoteRT.string_one_line h s, QuoteRT.string_scan_line h s⟩

/-- every valid code point reads back to itself -/
theorem rune_roundtrip {isPrint : Nat → Bool} (h : PSafe isPrint) (r : Nat) (rest : Str)
    (hr : validRune r = true) :
    GoLex.readRune (Lit.render isPrint (.rune (Int.ofNat r)) ++ rest) = some (r, rest) :=
  QuoteRT.rune_roundtrip h r rest hr

/-- every byte: `byte(0x..)` with exactly the value -/
theorem byte_roundtrip (isPrint : Nat → Bool) (b : UInt8) :
    ∃ digits, Lit.render isPrint (.byte b) = b!"byte(0x" ++ digits ++ b!")" ∧
      GoNum.readHex (b!"0x" ++ digits) = some b.toNat := LitRT.byte_roundtrip isPrint b

/-- decidable form of `PSafe` for a range table -/
def pSafeB (rs : List (Nat × Nat)) : Bool :=
  rs.all fun p => decide (0x80 ≤ p.1) && decide (p.1 ≤ p.2) &&
    (decide (p.2 < 0xD800) || (decide (0xDFFF < p.1) && decide (p.2 ≤ 0x10FFFF))) &&
    (decide (p.2 < 0xFEFF) || decide (0xFEFF < p.1))

/-- OBLIGATION (table regenerated from the toolchain's strconv.IsPrint): the assumption on the
    delegated function holds for the table the model driver runs with -/
theorem isPrint_table_safe : pSafeB Gen.isPrintRanges = true := by decide +kernel

theorem pSafe_gen : PSafe Gen.isPrint := by
  intro r hr
  simp only [Gen.isPrint, List.any_eq_true, Bool.and_eq_true, decide_eq_true_eq] at hr
  obtain ⟨p, hp, h1, h2⟩ := hr
  have := List.all_eq_true.mp isPrint_table_safe p hp
  simp only [Bool.and_eq_true, Bool.or_eq_true, decide_eq_true_eq] at this
  rw [QuoteRT.validRune_iff]
  omega

/-- the unconditional instance for the concrete table -/
theorem string_roundtrip_gen (s rest : Str) :
    GoLex.readString (quote Gen.isPrint s ++ rest) = some (s, rest) :=
  QuoteRT.string_roundtrip pSafe_gen s rest

example : GoLex.readString (quote (fun _ => false) b!"a\"b\n" ++ b!"; y") =
    some (b!"a\"b\n", b!"; y") := by decide

end C12
