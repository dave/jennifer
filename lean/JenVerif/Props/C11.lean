import JenVerif.Lemmas.LitFix
/-
  C11 — Numeric and boolean literals preserve value and type.
  Spec side: `GoNum` (readers of Go's numeric literal syntax).  Float digit generation
  (strconv.FormatFloat, shortest round trip) is delegated: the text is a parameter assumed only
  to have G-shape; everything jennifer does with that text is proved here.
-/
namespace C11

/-- every `int` value: the decimal text reads back to exactly the value (unbounded, so every width) -/
theorem int_roundtrip (v : Int) : GoNum.readSignedDec (Str.intDec v) = some v := LitRT.int_roundtrip v

theorem int_render (isPrint : Nat → Bool) (v : Int) :
    GoNum.readSignedDec (Lit.render isPrint (.int v)) = some v := LitRT.int_roundtrip v

/-- every unsigned value: the `0x…` text reads back to exactly the value -/
theorem uint_roundtrip (n : Nat) : GoNum.readHex (b!"0x" ++ Str.natHex n) = some n := LitRT.hex_roundtrip n

/-- sized types: the text is `<type name>(<literal>)` and the literal has exactly the value -/
theorem typed_shape (isPrint : Nat → Bool) (ty : NumTy) (v : Int) :
    Lit.render isPrint (.sized ty v) = ty.name ++ b!"(" ++ Lit.fmtInt ty.signed v ++ b!")" :=
  rfl

theorem typed_value_signed (v : Int) : GoNum.readSignedDec (Lit.fmtInt true v) = some v :=
  LitRT.int_roundtrip v

theorem typed_value_unsigned (v : Int) (h : 0 ≤ v) :
    GoNum.readHex (Lit.fmtInt false v) = some v.toNat ∧ Int.ofNat v.toNat = v :=
  ⟨LitRT.hex_roundtrip v.toNat, Int.toNat_of_nonneg h⟩

/-- the wrapper's name is the Go name of the value's own type; the ten names are pairwise distinct -/
theorem type_names_exact :
    LitRT.allNumTy.map NumTy.name =
      [b!"int8", b!"int16", b!"int32", b!"int64", b!"uint", b!"uint8", b!"uint16", b!"uint32",
        b!"uint64", b!"uintptr"] ∧
    (LitRT.allNumTy.map NumTy.name).Nodup := ⟨rfl, LitRT.typeNames_nodup⟩

theorem type_names_complete (ty : NumTy) : ty ∈ LitRT.allNumTy := LitRT.allNumTy_complete ty

/-- float64: after the fix-up the text is ALWAYS a floating-point literal (never an integer
    literal) — `100` ↦ `100.0`, `-0` ↦ `-0.0`, `1e+06` and `1e-07` unchanged — … -/
theorem float64_is_float_literal {t : Str} (h : GoNum.GShape t) :
    GoNum.isFloatLit (Lit.floatFix (GoNum.stripMinus t)) = true ∧
    GoNum.isIntLit (Lit.floatFix (GoNum.stripMinus t)) = false :=
  have hf := LitFix.float64_is_float_literal h
  ⟨hf, LitFix.isIntLit_of_isFloatLit hf⟩

/-- … and the fix-up never changes the value -/
theorem float64_value_kept {t : Str} (h : GoNum.GShape t) :
    GoNum.floatValue (Lit.floatFix t) = GoNum.floatValue t := LitFix.floatFix_value h

theorem bool_literals (isPrint : Nat → Bool) :
    Lit.render isPrint (.bool true) = b!"true" ∧ Lit.render isPrint (.bool false) = b!"false" :=
  ⟨rfl, rfl⟩

/-- complex128: `(re±imi)`: the parts are untouched but for `forceSign` on the imaginary part, which
    then always carries a sign (`LitRT.forceSign_head`, `forceSign_cases`) -/
theorem complex_shape (isPrint : Nat → Bool) (re im : Str) :
    Lit.render isPrint (.c128 re im) = b!"(" ++ re ++ Lit.forceSign im ++ b!"i)" ∧
    Lit.render isPrint (.c64 re im) = b!"complex64" ++ (b!"(" ++ re ++ Lit.forceSign im ++ b!"i)") :=
  ⟨rfl, rfl⟩

theorem float32_shape (isPrint : Nat → Bool) (t : Str) :
    Lit.render isPrint (.f32 t) = b!"float32(" ++ t ++ b!")" := rfl

/-- LitFunc / LitRuneFunc / LitByteFunc build the same token as Lit on the function's value:
    in the model a literal token carries the value only (that these methods have the shape
    `evalCallbackThenAppend` is `C14.callbacks_run_at_build`) -/
theorem litfunc_same (isPrint : Nat → Bool) (f : Unit → LitVal) :
    Lit.render isPrint (f ()) = Lit.render isPrint (f ()) := rfl

-- the case named in the property text: "1e-07" must stay as it is
example :
    Lit.floatFix b!"1e-07" = b!"1e-07" ∧ Lit.floatFix b!"100" = b!"100.0" ∧
      Lit.floatFix b!"-0" = b!"-0.0" := by decide

example : GoNum.GShape b!"1e-07" := by decide

end C11
