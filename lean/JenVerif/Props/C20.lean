import JenVerif.Lemmas.HeapLemmas
import JenVerif.Lemmas.ListSem
import JenVerif.Gen.Api
/-
  C20 — Clone isolation: clones and originals never corrupt each other.
  Heap model: statements are registers; `Clone` makes a new statement whose single item is a
  REFERENCE to the original; every builder method appends in place to its receiver.
-/
namespace C20
open Heap

/-- tokens appended to a statement are kept, in order, after everything it held before -/
theorem append_self (h : Heap) (c : Nat) (xs : List HCode) : get (append h c xs) c = get h c ++ xs :=
  get_set_self h c _

/-- appending to one statement (a clone, say) leaves the items of every OTHER statement — the
    original, sibling clones — untouched -/
theorem append_other (h : Heap) (c o : Nat) (xs : List HCode) (ho : o ≠ c) :
    get (append h c xs) o = get h o :=
  get_set_other h c o _ ho

/-- a fresh clone is one reference to the original; cloning changes no other statement -/
theorem clone_self (h : Heap) (d s : Nat) : get (clone h d s) d = [.ref s] := get_set_self h d _

theorem clone_other (h : Heap) (d s o : Nat) (ho : o ≠ d) : get (clone h d s) o = get h o :=
  get_set_other h d o _ ho

/-- OBLIGATION (regenerated from /repo on every check): the body of `Statement.Clone` is exactly
    `return &Statement{s}` — a NEW statement whose single item is the receiver pointer — which is
    what `Heap.clone` says (`set h dst [.ref src]`).  A Clone that copies, splices, shares a
    backing array or looks through nested clones has another shape and breaks this obligation. -/
theorem clone_is_wrap :
    Gen.api.any (fun d => d.name == b!"Clone" && d.recv == Gen.Recv.stmt && d.shape == Gen.Shape.cloneWrap &&
      d.nparams == 0) = true := by
  decide +kernel

mutual
def refsBelow (c : Nat) : HCode → Bool
  | .ref r => r < c
  | .group _ items => refsBelowL c items
  | .stmt items => refsBelowL c items
  | .dict ps => refsBelowP c ps
  | _ => true
def refsBelowL (c : Nat) : List HCode → Bool
  | [] => true
  | t :: ts => refsBelow c t && refsBelowL c ts
def refsBelowP (c : Nat) : List (HCode × HCode) → Bool
  | [] => true
  | (k, v) :: ps => refsBelow c k && refsBelow c v && refsBelowP c ps
end

/-- every reference points to an older statement: the invariant the frame theorems assume.  It is
    meant for histories in which a statement only ever receives references to statements created
    before it (Clone into a fresh register, Add(s) of an existing statement); that `clone` and
    `append` keep it there is not proved -/
def Older (h : Heap) : Prop := ∀ r, refsBelowL r (get h r) = true

theorem refsBelowL_mono {c d : Nat} (hcd : c ≤ d) :
    ∀ t : HCode, refsBelow c t = true → refsBelow d t = true :=
  mono
where
  mono : ∀ t : HCode, refsBelow c t = true → refsBelow d t = true
    | .ref _, h => decide_eq_true (Nat.lt_of_lt_of_le (of_decide_eq_true h) hcd)
    | .group _ items, h => monoL items h
    | .stmt items, h => monoL items h
    | .dict ps, h => monoP ps h
    | .nilc, _ | .tok _ _, _ | .lit _, _ | .tag _, _ | .comment _, _ => rfl
  monoL : ∀ ts : List HCode, refsBelowL c ts = true → refsBelowL d ts = true
    | [], _ => rfl
    | t :: ts, h => by
        simp only [refsBelowL, Bool.and_eq_true] at h ⊢
        exact ⟨mono t h.1, monoL ts h.2⟩
  monoP : ∀ ps : List (HCode × HCode), refsBelowP c ps = true → refsBelowP d ps = true
    | [], _ => rfl
    | (k, v) :: ps, h => by
        simp only [refsBelowP, Bool.and_eq_true] at h ⊢
        exact ⟨⟨mono k h.1.1, mono v h.1.2⟩, monoP ps h.2⟩

/-- a snapshot depends only on the part of the heap below the bound on its references: heaps that
    agree below `n` resolve every term with references below `n` alike.  One induction on the
    fuel: every call of `resolve`/`resolveList`/`resolvePairs`, also the one to the tail of a list,
    is at smaller fuel. -/
theorem resolve_agree {h h' : Heap} (hO : Older h) {n : Nat} (hh : ∀ r, r < n → get h' r = get h r)
    (fuel : Nat) :
    (∀ t, refsBelow n t = true → resolve h' fuel t = resolve h fuel t) ∧
    (∀ ts, refsBelowL n ts = true → resolveList h' fuel ts = resolveList h fuel ts) ∧
    (∀ ps, refsBelowP n ps = true → resolvePairs h' fuel ps = resolvePairs h fuel ps) := by
  induction fuel with
  | zero => exact ⟨fun _ _ => rfl, fun _ _ => rfl, fun _ _ => rfl⟩
  | succ fuel ih =>
    obtain ⟨iht, ihl, ihp⟩ := ih
    refine ⟨fun t ht => ?_, fun ts ht => ?_, fun ps ht => ?_⟩
    · cases t with
      | ref r =>
        have hr : r < n := of_decide_eq_true ht
        have hl := ihl (get h r) (refsBelowL_mono.monoL (Nat.le_of_lt hr) _ (hO r))
        simp only [resolve, hh r hr, hl]
      | group g items => simp only [resolve, ihl items ht]
      | stmt items => simp only [resolve, ihl items ht]
      | dict ps => simp only [resolve, ihp ps ht]
      | _ => rfl
    · cases ts with
      | nil => rfl
      | cons t ts =>
        simp only [refsBelowL, Bool.and_eq_true] at ht
        simp only [resolveList, iht t ht.1, ihl ts ht.2]
    · cases ps with
      | nil => rfl
      | cons p ps =>
        simp only [refsBelowP, Bool.and_eq_true] at ht
        simp only [resolvePairs, iht _ ht.1.1, iht _ ht.1.2, ihp ps ht.2]

/-- a term whose references are all below `c` resolves the same before and after anything is
    appended to statement `c` (or to any statement ≥ c) -/
theorem resolve_frame (h : Heap) (hO : Older h) (c : Nat) (xs : List HCode) :
    ∀ (fuel : Nat) (t : HCode), refsBelow c t = true → resolve (append h c xs) fuel t = resolve h fuel t :=
  fun fuel => (resolve_agree hO (fun r hr => append_other h c r xs (Nat.ne_of_lt hr)) fuel).1

theorem resolveList_frame (h : Heap) (hO : Older h) (c : Nat) (xs : List HCode) :
    ∀ (fuel : Nat) (ts : List HCode), refsBelowL c ts = true →
      resolveList (append h c xs) fuel ts = resolveList h fuel ts :=
  fun fuel => (resolve_agree hO (fun r hr => append_other h c r xs (Nat.ne_of_lt hr)) fuel).2.1

theorem resolvePairs_frame (h : Heap) (hO : Older h) (c : Nat) (xs : List HCode) :
    ∀ (fuel : Nat) (ps : List (HCode × HCode)), refsBelowP c ps = true →
      resolvePairs (append h c xs) fuel ps = resolvePairs h fuel ps :=
  fun fuel => (resolve_agree hO (fun r hr => append_other h c r xs (Nat.ne_of_lt hr)) fuel).2.2

/-- MAIN: anything appended to a clone `c` (a newer statement) leaves the SNAPSHOT — hence the
    rendering under every file — of the original `o` unchanged, for every fuel -/
theorem clone_append_frames_original (h : Heap) (hO : Older h) (o c : Nat) (hoc : o < c) (xs : List HCode)
    (fuel : Nat) :
    resolve (append h c xs) fuel (.ref o) = resolve h fuel (.ref o) :=
  resolve_frame h hO c xs fuel (.ref o) (by simp [refsBelow, hoc])

/-- the snapshot of a clone is the snapshot of its original AS IT IS NOW followed by the clone's
    own tokens, in order (later appends to the original show through the reference, later
    appends to the clone follow it) -/
theorem clone_tokens_kept_in_order (h : Heap) (d s : Nat) (own : List HCode) (fuel : Nat)
    (hd : get h d = .ref s :: own) :
    resolve h (fuel + 2) (.ref d) =
      .stmt (resolve h fuel (.ref s) :: resolveList h fuel own) := by
  rw [resolve, hd, resolveList]

/-- a statement wrapping one statement renders like the inner one -/
theorem wrapper_renders_same (cfg : Cfg) (e : Code.Env) (xs : List Code) :
    Code.renderP cfg e none (.stmt [.stmt xs]) = Code.renderP cfg e none (.stmt xs) := by
  rw [Code.renderP, Code.renderP]
  cases hn : Code.allNull e.np xs
  · rw [Code.renderStmtP_cons cfg e (c := .stmt xs) hn, Code.renderP]
    exact List.append_nil _
  · rw [Code.renderStmtP_cons_null cfg e (c := .stmt xs) hn, Code.renderStmtP_allNull cfg e xs true none hn]
    rfl

/-- an unmodified clone renders exactly like its original (under every file / naming): its
    snapshot is a one-item statement wrapping the original's snapshot -/
theorem fresh_clone_renders_same (cfg : Cfg) (e : Code.Env) (h : Heap) (d s : Nat) (fuel : Nat) :
    Code.renderP cfg e none (resolve (clone h d s) (fuel + 3) (.ref d)) =
      Code.renderP cfg e none (resolve (clone h d s) (fuel + 1) (.ref s)) := by
  rw [clone_tokens_kept_in_order _ d s [] _ (clone_self h d s), resolve]
  exact wrapper_renders_same cfg e _

-- non-vacuity: original S1 = [a], clone S2 of S1, then `b` appended to the clone and `c` to the
-- original: the clone shows a c b, the original a c
example :
    let h0 : Heap := set [] 1 [.tok .ident b!"a"]
    let h1 := clone h0 2 1
    let h2 := append h1 2 [.tok .ident b!"b"]
    let h3 := append h2 1 [.tok .ident b!"c"]
    get h3 1 = [.tok .ident b!"a", .tok .ident b!"c"] ∧ get h3 2 = [.ref 1, .tok .ident b!"b"] := ⟨rfl, rfl⟩

end C20
