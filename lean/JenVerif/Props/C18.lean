import JenVerif.Props.Common
import JenVerif.Lemmas.GenNamesLemmas
import JenVerif.Lemmas.PermLemmas
import JenVerif.Lemmas.TableCheck
/-
  C18 — Standard-library packages are referred to by their real names.

  Proved: a path found in the regenerated `standardLibraryHints` table (and not hinted by the
  user) is either imported WITHOUT alias under exactly the table's name, or imported WITH an
  explicit alias; the qualifier written is always the registered name.  That the table's name is
  the package's declared name is data about the Go distribution: validated exhaustively by the
  harness against GOROOT/src, not provable here.
-/
namespace C18
open Registry RegistryInv Props

/-- OBLIGATION (regenerated table): names are identifiers; keys are distinct -/
theorem table_wellformed : stdOkB Gen.stdHints = true ∧ (Gen.stdHints.map (·.1)).Nodup :=
  ⟨stdHints_check, TableCheck.nodup_of_ascending (lt := fun a b => !Str.le b a)
    (fun a => by simp [PermLemmas.le_refl]) PermLemmas.not_le_trans (by decide +kernel)⟩

/-- a table hit without a user hint: the candidate is the table's name, not aliased -/
theorem table_hit_base (cfg : Cfg) (f : FileS) (p : Str) (hu : (lookupHint f p).name = [])
    (hs : stdHint cfg p ≠ []) : chooseBase cfg f p = (stdHint cfg p, false) := by
  simp [chooseBase, hu, hs]

/-- … and the registered definition is either exactly (table name, no alias) or an alias -/
theorem table_hit_not_aliased (cfg : Cfg) (f : FileS) (p : Str) (hu : (lookupHint f p).name = [])
    (hs : stdHint cfg p ≠ []) :
    chooseDef cfg f p = ⟨stdHint cfg p, false⟩ ∨ (chooseDef cfg f p).alias = true := by
  cases ha : (chooseDef cfg f p).alias with
  | true => exact .inr rfl
  | false => exact .inl (by rw [(chooseDef_unaliased ha).1, table_hit_base cfg f p hu hs])

/-- an unaliased import is only ever written for a name the package really has: the table's
    name or a name the user supplied through ImportName(s) -/
theorem unaliased_is_real_name (cfg : Cfg) (f : FileS) (p : Str)
    (h : (chooseDef cfg f p).alias = false) :
    ((lookupHint f p).name ≠ [] ∧ (lookupHint f p).alias = false ∧
      (chooseDef cfg f p).name = (lookupHint f p).name) ∨
    ((lookupHint f p).name = [] ∧ stdHint cfg p ≠ [] ∧ (chooseDef cfg f p).name = stdHint cfg p) :=
  RegistryInv.unaliased_is_real_name cfg f p h

/-- the qualifier written for a path is the name the table stores for it (so it equals the
    import spec's name, or the real name when the spec has none) -/
theorem qualifier_is_registered {cfg : Cfg} {f : FileS} (hH : HintsOk f) (hS : StdOk cfg) (p : Str)
    (hl : isLocal f p = false) :
    (register cfg f p).1 = (lookupImp (register cfg f p).2 p).name :=
  (register_returns_stored hH hS hl).1.symm

/-- gennames: every entry (p, n) of the table it produces comes from a line of `go list` with the
    requested Standard flag, a package name other than `main`, a path accepted by the filter and
    un-vendored to p, and n is that line's package name (which of several such lines supplies it is
    not stated).  The lines themselves (what `go list` prints for the installed toolchain) and the
    regexp filter are parameters; the harness runs the real gennames and `go list` and compares. -/
theorem gennames_lines (accepts : Str → Bool) (standard novendor : Bool) (ls : List GenNames.Line)
    (p n : Str) (h : (p, n) ∈ GenNames.getPackages accepts standard novendor ls []) :
    ∃ l ∈ ls, l.standard = standard ∧ l.name ≠ b!"main" ∧ accepts l.path = true ∧
      GenNames.unvendorPath l.path = p ∧ l.name = n :=
  GenNamesLemmas.gennames_lines accepts standard novendor ls p n h

-- non-vacuity: the regenerated table has entries, e.g. math/rand and crypto/rand share a name
example : AList.lookup Gen.stdHints b!"math/rand" = some b!"rand" ∧
    AList.lookup Gen.stdHints b!"crypto/rand" = some b!"rand" := by
  decide +kernel

end C18
