import JenVerif.Lemmas.HintEquiv
import JenVerif.Lemmas.ListSem
import JenVerif.Gen.Globals
/-
  C07 — Output is deterministic: it never depends on Go map iteration order.
  Every function of the model that ranges over a Go map takes the entries as a LIST (the
  iteration order is a parameter); the theorems say the result is the same for any two
  permutations of it.
-/
namespace C07

/-- Tag: any iteration order of the map gives the same literal -/
theorem tag_perm (isPrint : Nat → Bool) {l₁ l₂ : List (Str × Str)} (h : l₁.Perm l₂)
    (nd : (l₁.map (·.1)).Nodup) :
    renderTag isPrint l₁ = renderTag isPrint l₂ := PermLemmas.tag_perm isPrint h nd

/-- import block: any iteration order of the import table gives the same block -/
theorem importBlock_perm (isPrint : Nat → Bool) {f₁ f₂ : FileS} (h : f₁.imports.Perm f₂.imports)
    (nd : (f₁.imports.map (·.1)).Nodup) (hc : f₁.cgo = f₂.cgo) :
    renderImports isPrint f₁ = renderImports isPrint f₂ := PermLemmas.imports_perm' isPrint h nd hc

/-- alias validity does not depend on the order of the import table -/
theorem validAlias_perm (cfg : Cfg) (f : FileS) {i₁ i₂ : List (Str × Def)} (h : i₁.Perm i₂) (a : Str) :
    Registry.isValidAlias cfg { f with imports := i₁ } a = Registry.isValidAlias cfg { f with imports := i₂ } a :=
  PermLemmas.isValidAlias_perm' cfg (f₁ := { f with imports := i₁ }) (f₂ := { f with imports := i₂ }) h a

/-- ImportNames: any iteration order of the argument map gives the same hint table … (and so the same
    result of every later entry point: `PermLemmas.importNames_perm_render`, Lemmas/HintEquiv) -/
theorem importNames_perm (f : FileS) {m₁ m₂ : List (Str × Str)} (h : m₁.Perm m₂)
    (nd : (m₁.map (·.1)).Nodup) (p : Str) :
    AList.lookup (Registry.importNames f m₁).hints p = AList.lookup (Registry.importNames f m₂).hints p :=
  PermLemmas.importNames_perm f h nd p

/-- Dict: once the texts of the kept pairs are fixed, any order of the pairs gives the same
    body (sorted by key text, then by value text) -/
theorem dict_perm (n : Nat) (first : Bool) {l₁ l₂ : List (Str × Str)} (h : l₁.Perm l₂) :
    Code.dictBodyP n first (l₁.mergeSort dictLe) = Code.dictBodyP n first (l₂.mergeSort dictLe) := by
  rw [PermLemmas.dict_sorted_perm h]

/-- OBLIGATION (regenerated): no function of package jen writes a package-level variable — there
    is no other incidental state -/
theorem no_global_writes : Gen.globalWrites = [] ∧ Gen.globalSuspicious = [] := by decide

theorem dictPairsP_perm (cfg : Cfg) (e : Code.Env) {ps₁ ps₂ : List (Code × Code)} (h : ps₁.Perm ps₂) :
    (Code.dictPairsP cfg e ps₁).Perm (Code.dictPairsP cfg e ps₂) := by
  rw [Code.dictPairsP_eq, Code.dictPairsP_eq]
  exact (h.filter _).map _

/-- Dict under a FIXED naming: any iteration order of the map renders the same bytes, with no
    hypothesis on the keys (equal key texts included) -/
theorem dict_render_perm (cfg : Cfg) (e : Code.Env) {ps₁ ps₂ : List (Code × Code)} (h : ps₁.Perm ps₂) :
    Code.renderP cfg e none (.dict ps₁) = Code.renderP cfg e none (.dict ps₂) := by
  simp only [Code.renderP]
  rw [PermLemmas.dict_sorted_perm (dictPairsP_perm cfg e h)]

/- `render_perm` for the STATEFUL renderer (a whole File whose Dicts are iterated in two
   different orders renders the same bytes) is FALSE on the pinned tree when the keys/values of
   a multi-pair Dict reference not-yet-imported packages that compete for one alias (known
   finding D7): the order in which they are first rendered decides who gets `d` and who `d1`.
   What is proved: under any fixed naming the Dict is permutation-invariant (`dict_render_perm`),
   and by T-R the stateful text is the pure text under the final naming. -/

end C07
