import JenVerif.Props.Common
import JenVerif.Lemmas.Frame
/-
  C08 — Rendering is repeatable and import names are stable across renders.
-/
namespace C08
open Code Registry RegistryInv RegistryGood Refine Frame

/-- rendering a File twice: same raw bytes AND the state is a fixed point (so a third, fourth …
    render is the same again); the formatted bytes are a function of the raw bytes -/
theorem file_render_idempotent {cfg : Cfg} {f : FileS} (hH : HintsOk f) (hS : StdOk cfg) (body : List Code) :
    renderFileRaw cfg (renderFileRaw cfg f body).2 body = renderFileRaw cfg f body :=
  renderFileRaw_idempotent cfg f body (good_of_hintsOk hH hS)

theorem file_render_idempotent_effects (w : World) {cfg : Cfg} {f : FileS} (hH : HintsOk f) (hS : StdOk cfg)
    (body : List Code) :
    let r1 := fileRender w cfg f body
    fileRender w cfg r1.2.2 body = r1 := by
  -- `rfl`, but stated: left to the unifier inside a larger term it is slow
  have hs : (renderFileRaw cfg f body).2 = (renderS cfg f none (.group fileInfo body)).2 := rfl
  have hnp : (renderFileRaw cfg f body).2.np = f.np := by
    rw [hs]; exact (renderS_ext cfg f none _ (good_of_hintsOk hH hS)).np_eq
  have hnf : (renderFileRaw cfg f body).2.noFormat = f.noFormat := by rw [hs, renderS_writes]
  simp only [fileRender]
  rw [file_render_idempotent hH hS body, hnp, hnf]

/-- a Statement or Group rendered twice with the same File: same text, state fixed -/
theorem fragment_idempotent {cfg : Cfg} {f : FileS} (hH : HintsOk f) (hS : StdOk cfg) (prev : Option Code) (c : Code) :
    renderS cfg (renderS cfg f prev c).2 prev c = renderS cfg f prev c :=
  rerender_fixed_point' cfg f prev c (good_of_hintsOk hH hS)

/-- histories over one File -/
inductive Op
  | hintName (p n : Str)
  | hintAlias (p n : Str)
  | hintNames (m : List (Str × Str))
  | anon (p : Str)
  | renderFile (body : List Code)
  | renderFrag (c : Code)

def okName (n : Str) : Prop := n = [] ∨ (isIdent n = true ∧ n ≠ b!"_")

/-- the property's guard: hint names are identifiers (aliases may be "."), and Anon is not used
    on a path that is already registered under a real name -/
def Op.ok (f : FileS) : Op → Prop
  | .hintName _ n => okName n
  | .hintAlias _ n => okName n ∨ n = b!"."
  | .hintNames m => ∀ e ∈ m, okName e.2
  | .anon p => isReg f p = false
  | .renderFile _ => True
  | .renderFrag _ => True

def Op.run (cfg : Cfg) (f : FileS) : Op → FileS
  | .hintName p n => importName f p n
  | .hintAlias p n => importAlias f p n
  | .hintNames m => importNames f m
  | .anon p => Registry.anon f p
  | .renderFile body => (renderFileRaw cfg f body).2
  | .renderFrag c => (renderS cfg f none c).2

def runAll (cfg : Cfg) : FileS → List Op → FileS
  | f, [] => f
  | f, op :: ops => runAll cfg (op.run cfg f) ops

def okAll (cfg : Cfg) : FileS → List Op → Prop
  | _, [] => True
  | f, op :: ops => op.ok f ∧ okAll cfg (op.run cfg f) ops

theorem lookupImp_congr {f g : FileS} (h : g.imports = f.imports) (p : Str) : lookupImp g p = lookupImp f p := by
  rw [lookupImp, h, lookupImp]

theorem step_keeps {cfg : Cfg} (hS : StdOk cfg) (f : FileS) (hH : HintsOk f) (op : Op) (hok : op.ok f) :
    HintsOk (op.run cfg f) ∧ ∀ p, isReg f p = true → lookupImp (op.run cfg f) p = lookupImp f p := by
  have render : ∀ c, HintsOk (renderS cfg f none c).2 ∧
      ∀ p, isReg f p = true → lookupImp (renderS cfg f none c).2 p = lookupImp f p := fun c =>
    have he := renderS_ext cfg f none c (good_of_hintsOk hH hS)
    ⟨hintsOk_congr he.static.hints he.static.pfx hH, he.keep⟩
  cases op with
  | hintName p n => exact ⟨importName_hintsOk hH p hok, fun _ _ => rfl⟩
  | hintAlias p n => exact ⟨importAlias_hintsOk hH p hok, fun _ _ => rfl⟩
  | hintNames m =>
    exact ⟨importNames_hintsOk m hH hok, fun q _ => lookupImp_congr (importNames_imports m f).1 q⟩
  | anon p =>
    refine ⟨anon_hintsOk hH p, fun q hq => anon_other f fun e => ?_⟩
    rw [e, show isReg f p = false from hok] at hq
    cases hq
  | renderFile body => exact render (.group fileInfo body)
  | renderFrag c => exact render c

/-- NAME STABILITY over all histories: once a path is registered under a real name — i.e. once
    it has appeared in any output produced with the File — every later state of the File, after
    any interleaving of renders, fragment renders and later hints, still maps it to that name
    (and the import block, printed from the same table, declares it) -/
theorem names_stable {cfg : Cfg} (hS : StdOk cfg) : ∀ (ops : List Op) (f : FileS), HintsOk f → okAll cfg f ops →
    ∀ p, isReg f p = true → lookupImp (runAll cfg f ops) p = lookupImp f p
  | [], _, _, _, _, _ => rfl
  | op :: ops, f, hH, hok, p, hp => by
      have s := step_keeps (cfg := cfg) hS f hH op hok.1
      have hp' : isReg (op.run cfg f) p = true := (isReg_of_lookup_eq (s.2 p hp)).trans hp
      rw [runAll, names_stable hS ops _ s.1 hok.2 p hp', s.2 p hp]

/-- what a render prints for a path is the name in the table (T-R), so "appeared under a name
    in an output" is "registered under that name" -/
theorem printed_name_is_registered {cfg : Cfg} {f : FileS} (hH : HintsOk f) (hS : StdOk cfg) (p : Str)
    (hl : isLocal f p = false) :
    (register cfg f p).1 = (lookupImp (register cfg f p).2 p).name ∧ isReg (register cfg f p).2 p = true :=
  ⟨(register_returns_stored hH hS hl).1.symm, register_isReg hH hS hl⟩

end C08
