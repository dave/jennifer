import JenVerif.Props.Common
/-
  C06 — References to the local package and to dot-imports are unqualified.
-/
namespace C06
open Code Registry RegistryInv RegistryGood

theorem np_local {f : FileS} {p : Str} (h : isLocal f p = true) : f.np p = true := by
  simp [FileS.np, h]

/-- a reference to the file's own package path renders as the bare name and registers nothing:
    exact string equality with the File's path is the only test, so this holds for that path
    and for no other -/
theorem local_bare (cfg : Cfg) (f : FileS) (prev : Option Code) (p n : Str) (h : isLocal f p = true) :
    renderS cfg f prev (Code.qual p n) = (n, f) := by
  rw [renderS_qual, register_local h]
  simp [np_local h]

/-- a dot-imported path (other than the local one and "C") renders as the bare name and is
    registered as `(".", alias)`, which the import block prints as `. "path"` — whatever the
    prefix, the other hints and the number of dot imports already present -/
theorem dot_bare_and_imported {cfg : Cfg} {f : FileS} (hH : HintsOk f) (hS : StdOk cfg)
    (prev : Option Code) (p n : Str)
    (hl : isLocal f p = false) (hC : p ≠ b!"C") (hr : isReg f p = false) (hd : hintDot f p = true) :
    (renderS cfg f prev (Code.qual p n)).1 = n ∧
    lookupImp (renderS cfg f prev (Code.qual p n)).2 p = ⟨b!".", true⟩ ∧
    ∀ isPrint, importSpec isPrint (p, lookupImp (renderS cfg f prev (Code.qual p n)).2 p) =
      b!". " ++ Quote.quote isPrint p := by
  have hnp : (register cfg f p).2.np p = true := by
    rw [register_np hH hS]
    simp [FileS.np, isDotImport_unreg hC hr, hd]
  have hdef : chooseDef cfg f p = ⟨b!".", true⟩ := by
    simp only [hintDot, Bool.and_eq_true, beq_iff_eq] at hd
    exact chooseDef_of_dot (by simp [chooseBase, hd.1, hd.2])
  have e : lookupImp (register cfg f p).2 p = ⟨b!".", true⟩ := by
    rw [register_new hl hr hC, hdef]; exact lookupImp_insert_self f p _
  rw [renderS_qual]
  simp only [hnp, if_true]
  exact ⟨trivial, e, fun isPrint => by rw [e]; simp [importSpec, hC]⟩

/-- any other path — however much it resembles the local one — is qualified by its registered,
    non-empty name and is in the import table afterwards -/
theorem near_miss_imported {cfg : Cfg} {f : FileS} (hH : HintsOk f) (hS : StdOk cfg)
    (prev : Option Code) (p n : Str) (hl : isLocal f p = false) (hnd : f.np p = false) :
    let r := renderS cfg f prev (Code.qual p n)
    r.1 = (lookupImp r.2 p).name ++ b!"." ++ n ∧ (lookupImp r.2 p).name ≠ [] ∧
    (lookupImp r.2 p).name ≠ b!"_" ∧ isReg r.2 p = true := by
  have hnp : (register cfg f p).2.np p = false := by rw [register_np hH hS]; exact hnd
  -- the path is registered by the first `register`, so the second one only reads the name
  have hreg := register_isReg (cfg := cfg) hH hS hl
  simp only [renderS_qual, hnp, Bool.false_eq_true, if_false, register_idem hreg, register_isLocal, hl]
  exact ⟨trivial, ((isReg_iff _ p).mp hreg).1, ((isReg_iff _ p).mp hreg).2, hreg⟩

/-- the local test is exact equality: a path different from the File's path is never local -/
theorem local_iff_equal (f : FileS) (p : Str) : isLocal f p = true ↔ f.path = p := by
  simp [isLocal]

-- non-vacuity
example : isLocal { path := b!"a.com/x" } b!"a.com/x" = true ∧
    isLocal { path := b!"a.com/x" } b!"a.com/x/" = false := by decide

end C06
