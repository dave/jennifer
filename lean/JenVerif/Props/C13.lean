import JenVerif.Lemmas.ListSem
import JenVerif.Lemmas.Frame
import JenVerif.Gen.Constructs
/-
  C13 — nil and Null() items vanish from lists; Empty() keeps its separator.
  Stated on the pure renderer (every environment); for the stateful renderer by a direct induction
  on the item list, with no side condition.
-/
namespace C13
open Code

/-- nil, `Null()`, statements / delimiter-less groups / Dicts made only of such items and an
    empty Tag are null under every file -/
theorem void_is_null (np : Str → Bool) (c : Code) (h : void c = true) : isNull np c = true :=
  void_isNull np c h

/-- inserting a void item at ANY position of ANY group's item list — any construct, any arity —
    leaves the rendering unchanged -/
theorem insert_void_anywhere (cfg : Cfg) (e : Env) (prev : Option Code) (g : GInfo) (xs ys : List Code)
    (v : Code) (hv : void v = true) :
    renderP cfg e prev (.group g (xs ++ v :: ys)) = renderP cfg e prev (.group g (xs ++ ys)) :=
  render_insert_void cfg e prev g xs ys v hv

/-- … and any number of void items at any positions: two item lists with the same non-null
    items render identically -/
theorem same_kept_same_output (cfg : Cfg) (e : Env) (prev : Option Code) (g : GInfo) (xs ys : List Code)
    (h : (xs.filter fun c => !isNull e.np c) = (ys.filter fun c => !isNull e.np c)) :
    renderP cfg e prev (.group g xs) = renderP cfg e prev (.group g ys) :=
  render_same_kept cfg e prev g xs ys h

/-- the rendered list is exactly the remaining (non-null) items, in order, each once, for every
    arity: separator before every kept item but the first, a newline before each in multi-line
    groups -/
theorem kept_items_in_order (cfg : Cfg) (e : Env) (g : GInfo) (cs : List Code) :
    (renderItemsP cfg e g true cs).1 =
      joinItems g true ((cs.filter fun c => !isNull e.np c).map (renderP cfg e none)) :=
  renderItemsP_closed cfg e g true cs

/-- instantiated for EVERY construct of the regenerated table (Call, Params, List, Values, Index,
    Block, Defs, Case, Types, Union, Return, If/For/Switch, the built-ins, …): a construct added
    to jennifer later is covered by the same quantifier -/
theorem every_construct (cfg : Cfg) (e : Env) (prev : Option Code) :
    ∀ c ∈ Gen.constructs, ∀ (xs ys : List Code) (v : Code), void v = true →
      renderP cfg e prev (.group c.info (xs ++ v :: ys)) = renderP cfg e prev (.group c.info (xs ++ ys)) :=
  fun c _ xs ys v hv => render_insert_void cfg e prev c.info xs ys v hv

/-- `Empty()` is not null and renders nothing: it takes part in separation like a real item -/
theorem empty_separates (cfg : Cfg) (e : Env) (g : GInfo) (a b : Code)
    (ha : isNull e.np a = false) (hb : isNull e.np b = false) :
    (renderItemsP cfg e g true [a, Code.empty, b]).1 =
      itemLead g true ++ renderP cfg e none a ++
        (itemLead g false ++ (itemLead g false ++ renderP cfg e none b)) := by
  have he : isNull e.np Code.empty = false := rfl
  have hr : renderP cfg e none Code.empty = [] := rfl
  simp [renderItemsP, ha, hb, he, hr]

theorem void_not_pkg (v : Code) (hv : void v = true) : ∀ s, v ≠ .tok .pkg s := by
  rintro s rfl
  cases hv

/-- STATEFUL renderer (imports registered while rendering), with NO side condition: a void item
    inserted at any position of any group's item list changes neither the text, nor the
    "nothing was rendered" flag, nor the registry reached — under every file state -/
theorem insert_void_stateful_items (cfg : Cfg) (g : GInfo) (v : Code) (hv : void v = true) :
    ∀ (xs ys : List Code) (first : Bool) (f : FileS),
      renderItemsS cfg g first f (xs ++ v :: ys) = renderItemsS cfg g first f (xs ++ ys)
  | [], ys, first, f =>
      Frame.null_item_contributes_nothing cfg g first f v ys (void_isNull f.np v hv) (void_not_pkg v hv)
  | x :: xs, ys, first, f => by
      rw [List.cons_append, List.cons_append, renderItemsS_cons, renderItemsS_cons,
        insert_void_stateful_items cfg g v hv xs ys first, insert_void_stateful_items cfg g v hv xs ys false]

theorem allNull_insert_void (np : Str → Bool) (v : Code) (hv : void v = true) (xs ys : List Code) :
    allNull np (xs ++ v :: ys) = allNull np (xs ++ ys) := by
  simp [allNull_append, allNull, void_isNull np v hv]

/-- … hence for the whole group, in File.Render / RenderWithFile as well -/
theorem insert_void_stateful (cfg : Cfg) (f : FileS) (prev : Option Code) (g : GInfo) (xs ys : List Code)
    (v : Code) (hv : void v = true) :
    renderS cfg f prev (.group g (xs ++ v :: ys)) = renderS cfg f prev (.group g (xs ++ ys)) := by
  simp only [renderS, allNull_insert_void f.np v hv xs ys, insert_void_stateful_items cfg g v hv xs ys true f]

/-- the OUTCOME is unchanged too (D15 repair): a void item inserted at any position of any
    group — `Values` holding a `Dict` included — neither causes nor hides the misuse error
    "Dict beside other items"; with `insert_void_stateful` the whole result of a render
    (error or not, bytes, registry) is the same with and without the void item -/
theorem insert_void_keeps_outcome (np : Str → Bool) (g : GInfo) (xs ys : List Code) (v : Code)
    (hv : void v = true) :
    misuse np (.group g (xs ++ v :: ys)) = misuse np (.group g (xs ++ ys)) := by
  rw [misuse_group_filter np g (xs ++ v :: ys), misuse_group_filter np g (xs ++ ys)]
  simp [List.filter_append, void_isNull np v hv]

-- non-vacuity / the D15 witness: nil and Null() beside a Dict in Values are no misuse
example :
    let vals : GInfo := ⟨b!"values", b!"{", b!"}", b!",", false⟩
    misuse (fun _ => false) (.group vals [.nilc, .dict [(.tok .ident b!"a", .lit (.int 1))], Code.null]) =
      false := by
  decide +kernel

/-- the limit of the property, made explicit: inside a STATEMENT a void item directly between
    `Case(…)` and the following `Block` changes the output, because the case-block test looks at
    the raw previous item (the property's constructs are lists, not this position) -/
theorem boundary_case_block :
    let cfg : Cfg := ⟨id, fun _ => false, [], []⟩
    let e : Env := ⟨fun _ => false, id⟩
    let cse := Code.group ⟨b!"case", b!"case ", b!":", b!",", false⟩ [.tok .ident b!"x"]
    let blk := Code.group ⟨b!"block", b!"{", b!"}", [], true⟩ [.tok .ident b!"y"]
    renderStmtP cfg e true none [cse, blk] ≠ renderStmtP cfg e true none [cse, Code.null, blk] := by
  decide +kernel

-- non-vacuity: a void item that is a nested structure
example :
    void (.stmt [.nilc, Code.null, .group ⟨b!"list", [], [], b!",", false⟩ [.tag []],
      .dict [(Code.null, .tok .ident b!"x")]]) = true := by
  decide +kernel

end C13
