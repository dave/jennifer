import JenVerif.Props.Common
import JenVerif.Lemmas.Frame
/-
  C05 — Import names are unique and legal for any path, hint and prefix.
-/
namespace C05
open Registry RegistryInv Props

/-- the Go specification's 25 keywords -/
def goKeywords : List Str := [b!"break", b!"default", b!"func", b!"interface", b!"select", b!"case", b!"defer", b!"go",
  b!"map", b!"struct", b!"chan", b!"else", b!"goto", b!"package", b!"switch", b!"const", b!"fallthrough", b!"if",
  b!"range", b!"type", b!"continue", b!"for", b!"import", b!"return", b!"var"]

/-- the universe scope of Go 1.21+: types, constants, zero value, functions -/
def goPredeclared : List Str := [b!"any", b!"bool", b!"byte", b!"comparable", b!"complex64", b!"complex128",
  b!"error", b!"float32", b!"float64", b!"int", b!"int8", b!"int16", b!"int32", b!"int64", b!"rune", b!"string",
  b!"uint", b!"uint8", b!"uint16", b!"uint32", b!"uint64", b!"uintptr", b!"true", b!"false", b!"iota", b!"nil",
  b!"append", b!"cap", b!"clear", b!"close", b!"complex", b!"copy", b!"delete", b!"imag", b!"len", b!"make",
  b!"max", b!"min", b!"new", b!"panic", b!"print", b!"println", b!"real", b!"recover"]

/-- OBLIGATION (regenerated table): every keyword and every predeclared identifier is reserved -/
theorem reserved_covers : (goKeywords ++ goPredeclared).all (fun w => Gen.reserved.contains w) = true := by
  decide +kernel

theorem reserved_covers_mem (tl : Str → Str) (ip : Nat → Bool) (w : Str) (h : w ∈ goKeywords ++ goPredeclared) :
    w ∈ (cfgOf tl ip).reserved := by
  have := List.all_eq_true.mp reserved_covers w h
  simp only [cfgOf, List.mem_cons]
  right
  simpa using this

/-- for EVERY byte string and EVERY lower-casing function the guessed alias is in `[a-z][a-z0-9]*` -/
theorem guessAlias_legal (toLower : Str → Str) (p : Str) : isLowerIdent (guessAlias toLower p) = true :=
  RegistryInv.guessAlias_legal toLower p

/-- the uniquifier terminates within its fuel and returns the least acceptable index -/
theorem uniquify_terminates (cfg : Cfg) (f : FileS) (name : Str) (alias : Bool) :
    let i := uniqLoop cfg f name alias (uniqFuel cfg f) 0
    acceptable cfg f name alias i = true ∧ (∀ j, j < i → acceptable cfg f name alias j = false) ∧
    i ≤ 2 * (cfg.reserved.length + f.imports.length) :=
  uniqLoop_least cfg f name alias

/-- operations on the registry of one file -/
inductive RegOp
  | register (p : Str)
  | anon (p : Str)
  | importName (p n : Str)
  | importAlias (p n : Str)
  | importNames (m : List (Str × Str))

def okName (n : Str) : Prop := n = [] ∨ (isIdent n = true ∧ n ≠ b!"_")

/-- the property's guard on user input: names given to ImportName(s) are identifiers, aliases are
    identifiers or "." (the name `C` needs no clause: `cfgOf` reserves it) -/
def RegOp.ok : RegOp → Prop
  | .register _ => True
  | .anon _ => True
  | .importName _ n => okName n
  | .importAlias _ n => okName n ∨ n = b!"."
  | .importNames m => ∀ e ∈ m, okName e.2

def RegOp.run (cfg : Cfg) (f : FileS) : RegOp → FileS
  | .register p => (Registry.register cfg f p).2
  | .anon p => Registry.anon f p
  | .importName p n => Registry.importName f p n
  | .importAlias p n => Registry.importAlias f p n
  | .importNames m => Registry.importNames f m

theorem cfree (tl : Str → Str) (ip : Nat → Bool) {f : FileS} (hI : Inv (cfgOf tl ip) f) : CFree f :=
  cfree_of_reserved hI (by simp [cfgOf])

/-- one step preserves the invariant and the hint guard -/
theorem step_inv (tl : Str → Str) (ip : Nat → Bool) (f : FileS) (op : RegOp) (hok : op.ok)
    (hI : Inv (cfgOf tl ip) f) (hH : HintsOk f) :
    Inv (cfgOf tl ip) (op.run (cfgOf tl ip) f) ∧ HintsOk (op.run (cfgOf tl ip) f) := by
  cases op with
  | register p =>
    exact ⟨register_inv hI hH (stdOk tl ip) p (cfree_cguard (cfree tl ip hI) p), register_hintsOk hH p⟩
  | anon p => exact ⟨anon_inv hI p, anon_hintsOk hH p⟩
  | importName p n => exact ⟨importName_inv hI p n, importName_hintsOk hH p hok⟩
  | importAlias p n => exact ⟨importAlias_inv hI p n, importAlias_hintsOk hH p hok⟩
  | importNames m => exact ⟨importNames_inv hI m, importNames_hintsOk m hH hok⟩

/-- C05 for every reachable state: after ANY sequence of registrations, Anon calls and hint
    calls (within the guard), on a file with any legal prefix, the import table has one entry
    per path, distinct paths never share a real name, and every real name is an identifier that
    is neither a keyword nor predeclared nor otherwise reserved (but for the path "C", stored under
    the name `C`, which `cfgOf` reserves) -/
theorem names_unique_and_legal (tl : Str → Str) (ip : Nat → Bool) (f0 : FileS)
    (h0 : f0.imports = []) (hH0 : HintsOk f0) (ops : List RegOp) (hok : ∀ op ∈ ops, op.ok) :
    let f := ops.foldl (fun f op => op.run (cfgOf tl ip) f) f0
    Inv (cfgOf tl ip) f ∧ HintsOk f := by
  have hI0 : Inv (cfgOf tl ip) f0 := inv_congr (f := {}) (by simp [h0]) (inv_empty _)
  clear h0
  induction ops generalizing f0 with
  | nil => exact ⟨hI0, hH0⟩
  | cons op ops ih =>
    have s := step_inv tl ip f0 op (hok op (by simp)) hI0 hH0
    exact ih _ s.2 (fun o ho => hok o (by simp [ho])) s.1

/-- spelled out: a keyword or predeclared identifier is never an import name -/
theorem no_reserved_name (tl : Str → Str) (ip : Nat → Bool) {f : FileS} (hI : Inv (cfgOf tl ip) f)
    (p : Str) (d : Def) (hm : (p, d) ∈ f.imports) (hr : realName d.name = true) (hp : p ≠ b!"C") :
    isIdent d.name = true ∧ d.name ∉ goKeywords ++ goPredeclared := by
  have h := hI.namesLegal p d hm hr
  refine ⟨h.1, fun hw => ?_⟩
  rcases h.2 with h2 | h2
  · exact h2 (reserved_covers_mem tl ip _ hw)
  · exact hp h2

/-- the uniqueness is of the FINAL (prefixed) names: the stored name is what is checked -/
theorem prefixed_unique (cfg : Cfg) (f : FileS) (p : Str) :
    isValidAlias cfg f (chooseDef cfg f p).name = true := chooseDef_valid cfg f p

/-- a renamed candidate is always written as an explicit alias -/
theorem renamed_is_aliased (cfg : Cfg) (f : FileS) (p : Str) :
    (chooseDef cfg f p).name ≠ (chooseBase cfg f p).1 → (chooseDef cfg f p).alias = true :=
  RegistryInv.renamed_is_aliased cfg f p

/-- the registrations performed INSIDE the renderer keep the invariant: any chain of `register`
    steps does -/
theorem regFrom_inv (tl : Str → Str) (ip : Nat → Bool) {S : Str → Bool} {f f' : FileS}
    (h : Frame.RegFrom (cfgOf tl ip) S f f') (hI : Inv (cfgOf tl ip) f) (hH : HintsOk f) :
    Inv (cfgOf tl ip) f' ∧ HintsOk f' := by
  induction h with
  | refl => exact ⟨hI, hH⟩
  | @step _ p _ _ ih => exact step_inv tl ip _ (.register p) trivial ih.1 ih.2

/-- C05 for rendered files: after File.Render / RenderWithFile of ANY tree, from any state that
    satisfies the invariant (e.g. any state reached as in `names_unique_and_legal`), the import
    table still has one entry per path, unique and legal names -/
theorem render_keeps_names_unique_and_legal (tl : Str → Str) (ip : Nat → Bool) (f : FileS)
    (prev : Option Code) (c : Code) (hI : Inv (cfgOf tl ip) f) (hH : HintsOk f) :
    Inv (cfgOf tl ip) (Code.renderS (cfgOf tl ip) f prev c).2 ∧
      HintsOk (Code.renderS (cfgOf tl ip) f prev c).2 :=
  regFrom_inv tl ip (Frame.renderS_reach (cfgOf tl ip) c f prev) hI hH

-- non-vacuity: a file with a keyword hint, a prefix and colliding paths satisfies the guard and
-- reaches a state with three distinct legal names (checked by evaluation in RegistryInv)
example : HintsOk RegistryInv.f0 := RegistryInv.hintsOk_f0

end C05
