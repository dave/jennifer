import JenVerif.Lemmas.PrinterEq
import JenVerif.Lemmas.PrinterEq.Lists
import JenVerif.Lemmas.PrinterEq.NoDict
import JenVerif.Props.Common
import JenVerif.Lemmas.Refine
/-
  C01 — Faithful rendering: any Go program built through the DSL re-parses to itself.

  Proved: the renderer's half.  `GoSyn` is a transcription of go/ast's syntactic categories;
  `GoSyn.build…` chooses the documented DSL element for each construct, looking every group's
  open/close/separator/multi and every token up in the tables REGENERATED from /repo;
  `GoSyn.print…` is a plain reference printer (explicit separators, no null items, no "first"
  flags, no case-block special case).  Theorem: rendering the built tree = the reference text,
  for every tree of every category that is well formed (`GoSyn.wf`: no null `Qual` path, no empty
  `List()` / `Types()` where the printer writes one); and for a whole File the unformatted source
  is head ++ import block ++ that text (T-R).
  Not proved (trusted, validated on all of GOROOT/src and generated programs by the harness):
  that gofmt + go/parser read the reference text back to the same tree.
-/
namespace C01
open Code GoSyn PrinterEq RegistryInv RegistryGood Refine

/-- OBLIGATIONS (regenerated tables): the delimiters of every construct the builder uses -/
theorem lookup_Call : ginfo b!"Call" = ⟨b!"call", b!"(", b!")", b!",", false⟩ := ginfo_Call
theorem lookup_Params : ginfo b!"Params" = ⟨b!"params", b!"(", b!")", b!",", false⟩ := ginfo_Params
theorem lookup_Index : ginfo b!"Index" = ⟨b!"index", b!"[", b!"]", b!":", false⟩ := ginfo_Index
theorem lookup_Types : ginfo b!"Types" = ⟨b!"types", b!"[", b!"]", b!",", false⟩ := ginfo_Types
theorem lookup_Values : ginfo b!"Values" = ⟨b!"values", b!"{", b!"}", b!",", false⟩ := ginfo_Values
theorem lookup_Block : ginfo b!"Block" = ⟨b!"block", b!"{", b!"}", [], true⟩ := ginfo_Block
theorem lookup_Case : ginfo b!"Case" = ⟨b!"case", b!"case ", b!":", b!",", false⟩ := ginfo_Case
theorem lookup_Return : ginfo b!"Return" = ⟨b!"return", b!"return ", [], b!",", false⟩ := ginfo_Return

theorem lookup_If_For_Switch :
    ginfo b!"If" = ⟨b!"if", b!"if ", [], b!";", false⟩ ∧ ginfo b!"For" = ⟨b!"for", b!"for ", [], b!";", false⟩ ∧
    ginfo b!"Switch" = ⟨b!"switch", b!"switch ", [], b!";", false⟩ := ⟨ginfo_If, ginfo_For, ginfo_Switch⟩

theorem lookup_Struct_Interface_Defs :
    ginfo b!"Struct" = ⟨b!"struct", b!"struct{", b!"}", [], true⟩ ∧
    ginfo b!"Interface" = ⟨b!"interface", b!"interface{", b!"}", [], true⟩ ∧
    ginfo b!"Defs" = ⟨b!"defs", b!"(", b!")", [], true⟩ := ⟨ginfo_Struct, ginfo_Interface, ginfo_Defs⟩

theorem lookup_rest :
    ginfo b!"Parens" = ⟨b!"parens", b!"(", b!")", [], false⟩ ∧
    ginfo b!"Assert" = ⟨b!"assert", b!".(", b!")", [], false⟩ ∧
    ginfo b!"Map" = ⟨b!"map", b!"map[", b!"]", [], false⟩ ∧ ginfo b!"List" = ⟨b!"list", [], [], b!",", false⟩ ∧
    ginfo b!"Qual" = Code.qualInfo := ⟨ginfo_Parens, ginfo_Assert, ginfo_Map, ginfo_List, ginfo_Qual⟩

theorem lookup_tokens :
    tokEntry b!"Default" = (.kw, b!"default") ∧ tokEntry b!"Func" = (.kw, b!"func") ∧
    tokEntry b!"Else" = (.kw, b!"else") ∧ tokEntry b!"Range" = (.kw, b!"range") ∧ tokEntry b!"Empty" = (.op, []) ∧
    tokEntry b!"Line" = (.layout, b!"\n") ∧ tokEntry b!"Dot" = (.delim, b!".") :=
  ⟨tokEntry_Default, tokEntry_Func, tokEntry_Else, tokEntry_Range, tokEntry_Empty, tokEntry_Line, tokEntry_Dot⟩

/-- MAIN: for every expression/type, statement, declaration and file body: rendering the tree
    that the documented builder produces gives exactly the reference printer's text — for all
    compositions, nesting depths and arities -/
theorem render_build_eq_print_expr (cfg : Cfg) (x : Expr) (e : Env) (h : WellFormed e x) :
    renderP cfg e none (build x) = print e x := render_build_eq_print cfg x e h

theorem render_build_eq_print_stmt (cfg : Cfg) (s : Stmt) (e : Env) (h : WellFormedS e s) :
    renderP cfg e none (buildS s) = printS e s := PrinterEq.render_build_eq_print_stmt cfg s e h

theorem render_build_eq_print_decl (cfg : Cfg) (d : Decl) (e : Env) (h : WellFormedD e d) :
    renderP cfg e none (buildD d) = printD e d := PrinterEq.render_build_eq_print_decl cfg d e h

theorem render_build_eq_print_file (cfg : Cfg) (ds : List Decl) (e : Env) (h : wfFile e.np ds = true) :
    renderP cfg e none (buildFile ds) = printFile e ds := PrinterEq.render_build_eq_print_file cfg ds e h

/-- the reference printer writes a call as function ++ ` (` ++ arguments joined by `,` ++ `)`, for
    EVERY arity (a property of `print`: this is what makes it auditable); the other list-like
    categories are the further conjuncts of `PrinterEq.print_lists_every_item` -/
theorem print_call_every_arity (e : Env) (f : Expr) (args : List Expr) :
    print e (.call f args) = print e f ++ b!" (" ++ (b!"," : Str).intercalate (args.map (print e)) ++ b!")" :=
  (PrinterEq.print_lists_every_item e).1 f args

/-- the whole File (stateful renderer, imports registered on the fly): the unformatted source is
    head ++ import block ++ the reference text of the declarations under the final naming; the
    render cannot fail with the Values/Dict misuse error -/
theorem file_render {cfg : Cfg} {f : FileS} (hH : HintsOk f) (hS : StdOk cfg) (ds : List Decl)
    (hw : wfFile (renderFileRaw cfg f (ds.map buildD)).2.np ds = true) :
    let f1 := (renderFileRaw cfg f (ds.map buildD)).2
    (renderFileRaw cfg f (ds.map buildD)).1 =
      fileHead cfg.isPrint f1 ++ renderImports cfg.isPrint f1 ++ printFile (envOf f1) ds ∧
    misuse f.np (buildFile ds) = false := by
  refine ⟨?_, buildFile_no_misuse f.np ds⟩
  rw [(renderFileRaw_pure cfg f (ds.map buildD) (good_of_hintsOk hH hS)).2]
  exact congrArg _ (PrinterEq.render_build_eq_print_file cfg ds (envOf _) hw)

end C01
