import JenVerif.Lemmas.TagRT
/-
  C17 — Struct tags round-trip through reflect.StructTag.
  Spec side: `StructTag.lookup` (transcribed from reflect.StructTag.Lookup, Go 1.23) and
  `GoLex` (Go's string literal syntax).
-/
namespace C17
open TagRT

/-- for every map with distinct conventional keys and ARBITRARY byte-string values, the one
    literal that `Tag` renders, read as Go source and looked up with reflect's algorithm, gives
    back exactly the value for every key: both quoting layers are inverted -/
theorem lookup_roundtrip {isPrint : Nat → Bool} (h : Quote.PSafe isPrint) (m : List (Str × Str))
    (nd : (m.map (·.1)).Nodup) (hk : ∀ kv ∈ m, StructTag.convKey kv.1 = true) (kv : Str × Str)
    (hm : kv ∈ m) (rest : Str) :
    (readGoLiteral (renderTag isPrint m ++ rest)).bind (fun r => StructTag.lookup r.1 kv.1) =
      some kv.2 :=
  TagRT.lookup_roundtrip h m nd hk kv hm rest

/-- a key that was not given is not found -/
theorem lookup_absent {isPrint : Nat → Bool} (h : Quote.PSafe isPrint) (m : List (Str × Str))
    (hk : ∀ kv ∈ m, StructTag.convKey kv.1 = true) (key : Str) (hne : ∀ kv ∈ m, kv.1 ≠ key)
    (rest : Str) :
    (readGoLiteral (renderTag isPrint m ++ rest)).bind (fun r => StructTag.lookup r.1 key) = none :=
  TagRT.lookup_absent h m hk key (fun kv hm => (hne kv hm).symm) rest

/-- the tag is ONE valid Go string literal whatever the values contain (quotes, back quotes,
    newlines, non-UTF-8 bytes): the reader consumes exactly the literal -/
theorem literal_valid {isPrint : Nat → Bool} (h : Quote.PSafe isPrint) (m : List (Str × Str))
    (rest : Str) :
    ∃ v, readGoLiteral (renderTag isPrint m ++ rest) = some (v, rest) :=
  ⟨_, literal_value h m rest⟩

/-- keys appear in sorted order (`Str.le`: the bytewise order of `sort.Strings`); the text is
    `k:"v"` entries joined by single spaces -/
theorem keys_sorted {isPrint : Nat → Bool} (h : Quote.PSafe isPrint) (m : List (Str × Str))
    (rest : Str) :
    readGoLiteral (renderTag isPrint m ++ rest) =
      some (Str.join b!" " ((m.mergeSort tagLe).map (entry isPrint)), rest) ∧
    (m.mergeSort tagLe).Pairwise (fun a b => Str.le a.1 b.1 = true) ∧ (m.mergeSort tagLe).Perm m :=
  ⟨literal_value h m rest, PermLemmas.sorted_by_key_pairwise m, List.mergeSort_perm m tagLe⟩

/-- an empty map renders nothing: the tag item is null -/
theorem empty_is_null (np : Str → Bool) (m : List (Str × Str)) :
    Code.isNull np (.tag m) = true ↔ m = [] :=
  TagRT.tag_null_iff np m

/-- the order in which Go iterates the map does not matter -/
theorem order_independent (isPrint : Nat → Bool) {l₁ l₂ : List (Str × Str)} (h : l₁.Perm l₂)
    (nd : (l₁.map (·.1)).Nodup) :
    renderTag isPrint l₁ = renderTag isPrint l₂ := TagRT.tag_perm isPrint h nd

end C17
