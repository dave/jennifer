import JenVerif.Lemmas.CommentLemmas
import JenVerif.Lemmas.QuoteRT
import JenVerif.FileRender
/-
  C15 — Comments are contained and preserved; file-level comments are placed right.
  Spec side: `GoComment.skipComment` (how the Go specification delimits comments).
-/
namespace C15
open CommentLemmas

/-- one-line text: rendered in line style; with the newline that follows it in every multi-line
    group, the comment ends exactly before that newline: nothing after it is swallowed and the
    text is verbatim inside -/
theorem line_comment_contained (t : Str) (hd : InDomain t) (h : t.elem 10 = false) (rest : Str) :
    GoComment.skipComment (renderComment t ++ [10] ++ rest) = some (b!"// " ++ t, [10] ++ rest) :=
  CommentLemmas.line_comment_contained hd h rest

/-- text with newlines: rendered in block style, verbatim, and the comment ends exactly at the
    `*/` that the renderer appends — whatever follows -/
theorem block_comment_contained (t : Str) (hd : InDomain t) (h : t.elem 10 = true) (rest : Str) :
    GoComment.skipComment (renderComment t ++ rest) = some (renderComment t, rest) ∧
    renderComment t = b!"/*\n" ++ t ++ (if t.getLast? = some 10 then [] else [10]) ++ b!"*/" :=
  ⟨CommentLemmas.block_comment_contained hd h rest, CommentLemmas.renderComment_block hd h⟩

/-- in a multi-line group with a closer (Block, Defs, Struct, Interface — looked up by their
    regenerated `multi` flag) every kept item's text is followed by a newline: the next item's
    lead, or the "\n"/",\n" written before the closer.  Hence a line comment ending an item ends
    before the closer and before the next item; the separator of the group, where it has one, is
    written in front of that newline and falls inside the comment. -/
theorem multi_items_end_with_newline (g : GInfo) (hm : g.multi = true) (hc : g.cls ≠ []) :
    (∀ first, ∃ r, itemLead g first = r ++ [10]) ∧
    (∃ r, closeSep g g.cls false = [10] ++ r ∨ closeSep g g.cls false = b!",\n") := by
  constructor
  · intro first
    exact ⟨if !first && g.sep != [] then g.sep else [], by simp [itemLead, hm]⟩
  · have : (g.cls != []) = true := by simpa using hc
    by_cases hs : g.sep == b!"," <;> simp [closeSep, hm, this, hs]

/-- the body of a File is a multi-line group without closer: every item is preceded by a newline
    and the comment-ending item is followed by the next item's newline or by the end of input -/
theorem file_items_on_own_lines :
    Code.fileInfo.multi = true ∧ Code.fileInfo.cls = [] ∧ itemLead Code.fileInfo true = [10] := by
  decide

/-- file-level layout of the unformatted source: headers, a BLANK line, package comments,
    `package name`, optional ` // import "<quoted path>"`, blank line -/
theorem file_header_layout (isPrint : Nat → Bool) (f : FileS) :
    fileHead isPrint f =
      (if f.headers.isEmpty then [] else commentLines f.headers ++ b!"\n") ++
      commentLines f.comments ++
      b!"package " ++ f.name ++
      (if f.canonical.isEmpty then [] else b!" // import " ++ Quote.quote isPrint f.canonical) ++
      b!"\n\n" := rfl

/-- every header / package comment occupies its own line(s): each is followed by a newline -/
theorem comment_lines_newline (cs : List Str) :
    commentLines cs = (cs.map fun c => renderComment c ++ b!"\n").flatten := rfl

/-- the canonical-path annotation is one well-formed string literal for EVERY path -/
theorem canonical_annotation_wellformed {isPrint : Nat → Bool} (h : Quote.PSafe isPrint)
    (p rest : Str) :
    GoLex.readString (Quote.quote isPrint p ++ rest) = some (p, rest) :=
  QuoteRT.string_roundtrip h p rest

-- text that looks like code
example : InDomain b!"x := 1; }" := by decide
example : GoComment.skipComment (renderComment b!"x := 1; }" ++ b!"\n}") =
    some (b!"// x := 1; }", b!"\n}") := by decide

end C15
