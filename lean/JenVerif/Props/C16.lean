import JenVerif.Lemmas.PermLemmas
import JenVerif.Lemmas.Refine
import JenVerif.Lemmas.ListSem
/-
  C16 — Dict renders every non-null pair exactly once, in key order.
-/
namespace C16
open Code PermLemmas

def keptPair (np : Str → Bool) (p : Code × Code) : Bool := !(isNull np p.1 || isNull np p.2)

/-- the texts handed to the sorter are those of EXACTLY the pairs with both sides non-null:
    each once, none merged — whatever their number and however their keys compare -/
theorem pairs_exact (cfg : Cfg) (e : Env) : ∀ ps : List (Code × Code),
    dictPairsP cfg e ps = (ps.filter (keptPair e.np)).map fun p => (renderP cfg e none p.1, renderP cfg e none p.2) :=
  dictPairsP_eq cfg e

/-- what is written is a permutation of those texts (nothing dropped, nothing duplicated),
    ordered by key text (then by value text) -/
theorem sorted_is_permutation (cfg : Cfg) (e : Env) (ps : List (Code × Code)) :
    ((dictPairsP cfg e ps).mergeSort dictLe).Perm (dictPairsP cfg e ps) ∧
    ((dictPairsP cfg e ps).mergeSort dictLe).Pairwise (fun a b => dictLe a b = true) :=
  ⟨List.mergeSort_perm _ _, List.pairwise_mergeSort dictLe_trans dictLe_total _⟩

/-- layout: no pair → nothing; one pair → `k:v` inline; several → a newline, then `k:v,` + newline each -/
theorem layout_none (cfg : Cfg) (e : Env) (ps : List (Code × Code)) (h : dictPairsP cfg e ps = []) :
    renderP cfg e none (.dict ps) = [] := by
  simp [renderP, h, dictBodyP]

theorem layout_one (cfg : Cfg) (e : Env) (ps : List (Code × Code)) (kt vt : Str)
    (h : dictPairsP cfg e ps = [(kt, vt)]) :
    renderP cfg e none (.dict ps) = kt ++ b!":" ++ vt := by
  simp [renderP, h, dictBodyP]

theorem layout_many (n : Nat) (hn : n > 1) (first : Bool) (kt vt : Str) (rest : List (Str × Str)) :
    dictBodyP n first ((kt, vt) :: rest) =
      (if first then b!"\n" else []) ++ kt ++ b!":" ++ vt ++ b!",\n" ++ dictBodyP n false rest := by
  simp [dictBodyP, hn]

/-- a Dict whose pairs all have a null side is null (renders nothing, takes no separator) -/
theorem all_null_dict_is_null (np : Str → Bool) (ps : List (Code × Code)) :
    isNull np (.dict ps) = true ↔ (ps.filter (keptPair np)) = [] := by
  simp only [isNull]
  induction ps with
  | nil => simp [dictNull]
  | cons p ps ih =>
    obtain ⟨k, v⟩ := p
    by_cases h : (isNull np k || isNull np v) = true
    · simp [dictNull, keptPair, h, ih]
    · simp [dictNull, keptPair, h]

/-- the documented misuse — a non-null Dict beside another item that renders something in
    Values — is reported -/
theorem dict_must_be_alone (np : Str → Bool) (g : GInfo) (hg : g.name = b!"values") (ps : List (Code × Code))
    (x : Code) (hd : isNull np (.dict ps) = false) (hx : isNull np x = false) :
    misuse np (.group g [.dict ps, x]) = true := by
  simp [misuse, misuseItems, countKept, hg, hd, hx, isDict]

/-- … and an item that renders nothing (nil, Null(), an empty list: C13) is not "another item":
    the Dict beside it is treated exactly like the Dict alone (D15 repair), on either side -/
theorem dict_beside_void_is_alone (np : Str → Bool) (g : GInfo) (ps : List (Code × Code)) (x : Code)
    (hx : isNull np x = true) :
    misuse np (.group g [.dict ps, x]) = misuse np (.group g [.dict ps]) ∧
    misuse np (.group g [x, .dict ps]) = misuse np (.group g [.dict ps]) := by
  by_cases hd : isNull np (.dict ps) = true <;>
    simp [misuse, misuseItems, countKept, allNull, hd, hx]

/-- a Dict alone in Values is never the misuse by itself -/
theorem dict_alone_ok (np : Str → Bool) (g : GInfo) (ps : List (Code × Code)) :
    misuse np (.group g [.dict ps]) =
      (!(g.name == b!"types" && isNull np (.dict ps)) && !isNull np (.dict ps) && misusePairs np ps) := by
  by_cases hd : isNull np (.dict ps) = true <;> by_cases ht : g.name = b!"types" <;>
    simp [misuse, misuseItems, countKept, allNull, hd, ht, isDict]

/-- the stateful renderer writes the same body (T-R): under any later naming -/
theorem stateful_eq_pure (cfg : Cfg) (f : FileS) (hg : Refine.Good cfg f) (ps : List (Code × Code)) (f3 : FileS)
    (h3 : Refine.Ext (renderS cfg f none (.dict ps)).2 f3) :
    (renderS cfg f none (.dict ps)).1 = renderP cfg (Refine.envOf f3) none (.dict ps) :=
  (Frame.renderS_sem cfg (.dict ps) f none f.np hg rfl).2 trivial f3 h3

-- the D6 witness: two pairs with the same key text stay two pairs
example :
    let cfg : Cfg := ⟨id, fun _ => false, [], []⟩
    let e : Env := ⟨fun _ => false, id⟩
    let f := Code.stmt [.tok .ident b!"f", .group ⟨b!"call", b!"(", b!")", b!",", false⟩ []]
    dictPairsP cfg e [(f, .lit (.int 2)), (f, .lit (.int 1))] = [(b!"f ()", b!"2"), (b!"f ()", b!"1")] := by
  decide +kernel

end C16
