import JenVerif.Props.Common
import JenVerif.Lemmas.PermLemmas
/-
  C19 — Cgo: the "C" import is never renamed and its preamble sits directly above it.
-/
namespace C19
open Code Registry RegistryInv PermLemmas

/-- "C" is registered as ("C", not aliased) whatever the hints and the prefix, in every state
    that satisfies the registry invariant -/
theorem C_registered_as_C {cfg : Cfg} {f : FileS} (hI : Inv cfg f) (hl : isLocal f b!"C" = false) :
    (register cfg f b!"C").1 = b!"C" ∧ lookupImp (register cfg f b!"C").2 b!"C" = ⟨b!"C", false⟩ :=
  register_C hI hl

/-- "C" is never a dot import -/
theorem C_never_dot (f : FileS) : isDotImport f b!"C" = false := by simp [isDotImport]

/-- a reference `Qual("C", n)` renders as `C.n`, whatever hints name "C" -/
theorem C_qualifier {cfg : Cfg} {f : FileS} (hI : Inv cfg f) (prev : Option Code) (n : Str)
    (hl : isLocal f b!"C" = false) :
    (renderS cfg f prev (Code.qual b!"C" n)).1 = b!"C." ++ n := by
  have h1 := register_C (cfg := cfg) hI hl
  have hl1 : isLocal (register cfg f b!"C").2 b!"C" = false := (register_isLocal cfg f _ _).trans hl
  have hnp : (register cfg f b!"C").2.np b!"C" = false := by simp [FileS.np, C_never_dot, hl1]
  rw [C06_renderS_qual, hnp, register_reg hl1 (by simp [isReg, h1.2]), h1.2]
  rfl
where
  C06_renderS_qual : ∀ {cfg : Cfg} {f : FileS} {prev : Option Code} {p n : Str},
      renderS cfg f prev (Code.qual p n) =
        if (register cfg f p).2.np p then (n, (register cfg f p).2)
        else ((register cfg (register cfg f p).2 p).1 ++ b!"." ++ n,
          (register cfg (register cfg f p).2 p).2) :=
    Code.renderS_qual _ _ _ _ _

/-- the import spec printed for "C" never carries a name — also for the Anon entry `_` -/
theorem C_never_aliased_in_block (isPrint : Nat → Bool) (d : Def) :
    importSpec isPrint (b!"C", d) = Quote.quote isPrint b!"C" := by
  simp [importSpec]

/-- with a preamble: the main block lists everything but "C"; then the preamble comments in the
    order given, each followed by a newline; then `import "C"` as its own declaration -/
theorem preamble_layout (isPrint : Nat → Bool) (f : FileS) (h : f.cgo ≠ []) :
    renderImports isPrint f =
      importsMain isPrint (f.imports.filter fun e => !(e.1 == b!"C")) ++
      (f.cgo.map fun c => renderComment c ++ b!"\n").flatten ++ b!"import \"C\"\n\n" := by
  have he : f.cgo.isEmpty = false := by simpa using h
  rw [renderImports_eq]
  simp [he, commentLines]

/-- without a preamble "C" is listed with the other imports and nothing follows the block -/
theorem no_preamble_layout (isPrint : Nat → Bool) (f : FileS) (h : f.cgo = []) :
    renderImports isPrint f = importsMain isPrint f.imports := by
  rw [renderImports_eq]
  simp only [h, List.isEmpty_nil, Bool.not_true, Bool.and_false, Bool.not_false, Bool.false_eq_true, if_false,
    List.append_nil]
  congr 1
  exact List.filter_eq_self.mpr (fun _ _ => rfl)

/-- with a preamble the block ends in the declaration `import "C"`; without one it is the main block
    over the whole table, which lists "C" like any other entry -/
theorem present_iff (isPrint : Nat → Bool) (f : FileS) :
    (f.cgo ≠ [] → ∃ pre, renderImports isPrint f = pre ++ b!"import \"C\"\n\n") ∧
    (f.cgo = [] → renderImports isPrint f = importsMain isPrint f.imports) := by
  refine ⟨fun h => ⟨_, by rw [preamble_layout isPrint f h]⟩, no_preamble_layout isPrint f⟩

-- non-vacuity: a file with a preamble and two imports
example : renderImports (fun _ => false)
    { imports := [(b!"C", ⟨b!"C", false⟩), (b!"fmt", ⟨b!"fmt", false⟩)], cgo := [b!"#include <a.h>"] } =
    b!"import \"fmt\"\n\n// #include <a.h>\nimport \"C\"\n\n" := by decide

end C19
