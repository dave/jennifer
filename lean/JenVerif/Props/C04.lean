import JenVerif.Props.Common
import JenVerif.Lemmas.Frame
/-
  C04 — The import block is exact: used paths and anonymous imports, nothing else.
  `Frame.visits np c p` : does the traversal of `c` hand path `p` to the registry — i.e. is there
  a package token for `p` that is reached (not inside an item that is skipped as null).
-/
namespace C04
open Code Registry RegistryInv RegistryGood Frame

/-- EXACTNESS for a file render: a path in the import table afterwards was there before (Anon
    imports, earlier renders) or is named by a reached reference (and is not the file's own path);
    and every reached non-local reference is imported under a real name -/
theorem block_paths_exact {cfg : Cfg} {f : FileS} (hH : HintsOk f) (hS : StdOk cfg) (body : List Code) (p : Str) :
    (p ∈ (renderFileRaw cfg f body).2.imports.map (·.1) →
      p ∈ f.imports.map (·.1) ∨ (visitsItems f.np body p = true ∧ isLocal f p = false)) ∧
    (visitsItems f.np body p = true → isLocal f p = false → isReg (renderFileRaw cfg f body).2 p = true) :=
  file_imports_exact cfg f body (good_of_hintsOk hH hS) p

/-- each path once: under C05's invariant the import table has one entry per path (the printed
    block lists that table; no statement here speaks of its lines) -/
theorem no_duplicate_paths {cfg : Cfg} {f : FileS} (hI : Inv cfg f) : (f.imports.map (·.1)).Nodup := hI.keysDistinct

/-- hints alone import nothing: the hint setters never touch the import table -/
theorem hints_alone_import_nothing (f : FileS) (p n : Str) (m : List (Str × Str)) :
    (importName f p n).imports = f.imports ∧ (importAlias f p n).imports = f.imports ∧
    (importNames f m).imports = f.imports := hints_do_not_import f p n m

/-- a path that is hinted but never reached is not imported by rendering -/
theorem unreferenced_hint_not_imported {cfg : Cfg} {f : FileS} (hH : HintsOk f) (hS : StdOk cfg)
    (body : List Code) (p : Str) (hnew : p ∉ f.imports.map (·.1)) (hv : visitsItems f.np body p = false) :
    p ∉ (renderFileRaw cfg f body).2.imports.map (·.1) := by
  intro h
  rcases (block_paths_exact hH hS body p).1 h with h' | h'
  · exact hnew h'
  · rw [hv] at h'; cases h'.1

/-- elements that render nothing contribute nothing: a null item of a group (that is not itself
    a bare package token) is skipped without touching the registry … -/
theorem void_contributes_nothing (cfg : Cfg) (g : GInfo) (first : Bool) (f : FileS) (c : Code) (cs : List Code)
    (hn : isNull f.np c = true) (hd : ∀ s, c ≠ .tok .pkg s) :
    renderItemsS cfg g first f (c :: cs) = renderItemsS cfg g first f cs :=
  null_item_contributes_nothing cfg g first f c cs hn hd

/-- … a Dict pair with a null side is never visited, nor is an all-null type-parameter list -/
theorem omitted_pairs_not_visited (np : Str → Bool) (k v : Code) (ps : List (Code × Code)) (p : Str)
    (h : (isNull np k || isNull np v) = true) : visitsPairs np ((k, v) :: ps) p = visitsPairs np ps p :=
  congrFun (visitsPairs_null h ps) p

theorem empty_types_not_visited (np : Str → Bool) (g : GInfo) (items : List Code) (p : Str)
    (hg : g.name = b!"types") (hn : allNull np items = true) : visits np (.group g items) p = false :=
  visits_group_types (by rw [hg, hn]; rfl) p

/-- Anon stores exactly the `_` entry for the path -/
theorem anon_entry (f : FileS) (p : Str) : lookupImp (anon f p) p = ⟨b!"_", true⟩ := anon_lookup f p

end C04
