import JenVerif.Render
import JenVerif.Gen.Constructs
import JenVerif.Gen.Tokens
/-
  C01, spec side: a transcription of the core of go/ast (`GoSyn.Expr`, `Stmt`, `Decl`, …), the
  documented jennifer DSL element for every construct (`items` / `build`), and a REFERENCE PRINTER
  (`print`): a plain structural recursion that writes the concrete syntax with explicit
  separators.  The printer knows nothing about null items, "first" flags, multi-line flags or the
  case-block special case; `Lemmas/PrinterEq.lean` proves that rendering the built tree gives
  exactly the printer's text.

  Atoms: identifiers, operator tokens (closed enumerations of go/token) and already-rendered
  literal / struct-tag texts (literal VALUES are the business of C11/C12).

  The text is the renderer's raw text (one space between the items of a statement, `f (a,b)`,
  `x . sel` …); gofmt normalises the spacing afterwards, outside the theorem.
-/
namespace GoSyn

/-! ### lookups in the REGENERATED tables -/

/-- open / close / separator / multi of a group construct, looked up by API name -/
def ginfo (api : Str) : GInfo :=
  match Gen.constructs.find? (·.api == api) with
  | some c => c.info
  | none => default

/-- `.group (ginfo api) items` : the Group built by the method `api` -/
def grp (api : Str) (cs : List Code) : Code := .group (ginfo api) cs

def kindOf (k : Str) : TokKind :=
  if k == b!"ident" then .ident else if k == b!"kw" then .kw else if k == b!"op" then .op
  else if k == b!"delim" then .delim else if k == b!"layout" then .layout else .null

/-- kind and content of the fixed token written by the method `api` (`Func()`, `Else()`, …) -/
def tokEntry (api : Str) : TokKind × Str :=
  match Gen.tokens.find? (fun t => t.api == api && !t.dynamic) with
  | some t => (kindOf t.kind, t.content)
  | none => (.null, [])

/-- the token built by the parameterless method `api` -/
def tokc (api : Str) : Code := .tok (tokEntry api).1 (tokEntry api).2

/-- kind of the token built by a method that takes its content as argument (`Id`, `Op`, `Dot`) -/
def dynKind (api : Str) : TokKind :=
  match Gen.tokens.find? (fun t => t.api == api && t.dynamic) with
  | some t => kindOf t.kind
  | none => .null

/-- `Id(name)` as an item -/
def idTok (s : Str) : Code := .tok (dynKind b!"Id") s
/-- `Op(op)` as an item -/
def opTok (s : Str) : Code := .tok (dynKind b!"Op") s

/-! ### atoms: the operator enumerations of go/token -/

inductive BinOp
  | add | sub | mul | quo | rem | and | or | xor | shl | shr | andNot
  | land | lor | eql | neq | lss | leq | gtr | geq
deriving DecidableEq, Repr, Inhabited

def BinOp.text : BinOp → Str
  | .add => b!"+" | .sub => b!"-" | .mul => b!"*" | .quo => b!"/" | .rem => b!"%"
  | .and => b!"&" | .or => b!"|" | .xor => b!"^" | .shl => b!"<<" | .shr => b!">>" | .andNot => b!"&^"
  | .land => b!"&&" | .lor => b!"||" | .eql => b!"==" | .neq => b!"!=" | .lss => b!"<" | .leq => b!"<="
  | .gtr => b!">" | .geq => b!">="

/-- unary operators (`*x` is `Expr.star`, as in go/ast) -/
inductive UnOp
  | pos | neg | not | xor | addr | recv | tilde
deriving DecidableEq, Repr, Inhabited

def UnOp.text : UnOp → Str
  | .pos => b!"+" | .neg => b!"-" | .not => b!"!" | .xor => b!"^" | .addr => b!"&" | .recv => b!"<-"
  | .tilde => b!"~"

inductive AssignOp
  | assign | define | add | sub | mul | quo | rem | and | or | xor | shl | shr | andNot
deriving DecidableEq, Repr, Inhabited

def AssignOp.text : AssignOp → Str
  | .assign => b!"=" | .define => b!":=" | .add => b!"+=" | .sub => b!"-=" | .mul => b!"*="
  | .quo => b!"/=" | .rem => b!"%=" | .and => b!"&=" | .or => b!"|=" | .xor => b!"^=" | .shl => b!"<<="
  | .shr => b!">>=" | .andNot => b!"&^="

inductive IncDecOp
  | inc | dec
deriving DecidableEq, Repr, Inhabited

def IncDecOp.text : IncDecOp → Str
  | .inc => b!"++" | .dec => b!"--"

inductive BranchTok
  | brk | cont | goto | fallthrough
deriving DecidableEq, Repr, Inhabited

/-- the jennifer method that writes the keyword -/
def BranchTok.api : BranchTok → Str
  | .brk => b!"Break" | .cont => b!"Continue" | .goto => b!"Goto" | .fallthrough => b!"Fallthrough"

def BranchTok.text : BranchTok → Str
  | .brk => b!"break" | .cont => b!"continue" | .goto => b!"goto" | .fallthrough => b!"fallthrough"

inductive DeclTok
  | var | const | type
deriving DecidableEq, Repr, Inhabited

def DeclTok.api : DeclTok → Str
  | .var => b!"Var" | .const => b!"Const" | .type => b!"Type"

def DeclTok.text : DeclTok → Str
  | .var => b!"var" | .const => b!"const" | .type => b!"type"

inductive ChanDir
  | both | send | recv
deriving DecidableEq, Repr, Inhabited

/-! ### the syntax tree (go/ast) -/

mutual
inductive Expr
  /-- `*ast.Ident` -/
  | ident (name : Str)
  /-- `*ast.BasicLit`: the literal's source text is an atom -/
  | basicLit (text : Str)
  /-- a qualified identifier `pkg.Name` built with `Qual(path, name)` (go/ast: `SelectorExpr` on
      a package name); printed under the environment's name for `path` -/
  | qual (path name : Str)
  /-- `*ast.SelectorExpr` `x.sel` -/
  | selector (x : Expr) (sel : Str)
  /-- `*ast.CallExpr` without ellipsis `f(args…)` -/
  | call (f : Expr) (args : List Expr)
  /-- `*ast.CallExpr` with ellipsis `f(args…, last...)` -/
  | callSpread (f : Expr) (args : List Expr) (last : Expr)
  /-- `*ast.IndexExpr` `x[i]` -/
  | index (x : Expr) (i : Expr)
  /-- `*ast.IndexListExpr` `x[t1, t2, …]` (generic instantiation) -/
  | indexList (x : Expr) (is : List Expr)
  /-- `*ast.SliceExpr` `x[lo:hi]` -/
  | slice (x : Expr) (lo hi : Option Expr)
  /-- `*ast.SliceExpr` with `Slice3`: `x[lo:hi:max]` -/
  | slice3 (x : Expr) (lo hi max : Option Expr)
  /-- `*ast.StarExpr` -/
  | star (x : Expr)
  /-- `*ast.UnaryExpr` -/
  | unary (op : UnOp) (x : Expr)
  /-- `*ast.BinaryExpr` -/
  | binary (x : Expr) (op : BinOp) (y : Expr)
  /-- `*ast.ParenExpr` -/
  | paren (x : Expr)
  /-- `*ast.TypeAssertExpr` `x.(T)`; `none` is `x.(type)` -/
  | typeAssert (x : Expr) (t : Option Expr)
  /-- `*ast.CompositeLit` `T{elts…}`; the type may be elided -/
  | compositeLit (t : Option Expr) (elts : List Expr)
  /-- `*ast.KeyValueExpr` `k: v` -/
  | keyValue (k v : Expr)
  /-- `*ast.FuncLit` -/
  | funcLit (params : List Field) (results : Results) (body : List Stmt)
  /-- `*ast.ArrayType` `[n]T`; `none` is the slice type `[]T` -/
  | arrayType (len : Option Expr) (elem : Expr)
  /-- `*ast.MapType` -/
  | mapType (k v : Expr)
  /-- `*ast.ChanType` -/
  | chanType (dir : ChanDir) (t : Expr)
  /-- `*ast.FuncType` -/
  | funcType (params : List Field) (results : Results)
  /-- `*ast.StructType` -/
  | structType (fields : List Field)
  /-- `*ast.InterfaceType` -/
  | interfaceType (elems : List IElem)
  /-- `*ast.Ellipsis` `...T` / `...` -/
  | ellipsis (t : Option Expr)
/-- `*ast.Field`: `names… type tag?` (no names: embedded field / unnamed parameter) -/
inductive Field
  | mk (names : List Str) (type : Expr) (tag : Option Str)
/-- Go spec `Result = Parameters | Type` (go/ast: `FuncType.Results`) -/
inductive Results
  | none
  | type (t : Expr)
  | fields (fs : List Field)
/-- an element of an interface type: method or embedded type / type-set term -/
inductive IElem
  | method (name : Str) (params : List Field) (results : Results)
  | embed (t : Expr)
inductive Stmt
  /-- `*ast.ExprStmt` -/
  | expr (x : Expr)
  /-- `*ast.AssignStmt` -/
  | assign (lhs : List Expr) (op : AssignOp) (rhs : List Expr)
  /-- `*ast.IncDecStmt` -/
  | incDec (x : Expr) (op : IncDecOp)
  /-- `*ast.SendStmt` -/
  | send (ch v : Expr)
  /-- `*ast.ReturnStmt` -/
  | ret (results : List Expr)
  /-- `*ast.BranchStmt` -/
  | branch (tok : BranchTok) (label : Option Str)
  /-- `*ast.BlockStmt` -/
  | block (body : List Stmt)
  /-- `*ast.IfStmt` -/
  | ifS (init : Option Stmt) (cond : Expr) (body : List Stmt) (els : Option Stmt)
  /-- `*ast.ForStmt` with neither init nor post: `for {…}` / `for cond {…}` -/
  | forS (cond : Option Expr) (body : List Stmt)
  /-- `*ast.ForStmt` with a for-clause `for init; cond; post {…}` -/
  | forClause (init : Option Stmt) (cond : Option Expr) (post : Option Stmt) (body : List Stmt)
  /-- `*ast.RangeStmt` (a value without key is not Go; it is ignored) -/
  | range (key value : Option Expr) (define : Bool) (x : Expr) (body : List Stmt)
  /-- `*ast.SwitchStmt` -/
  | switch (init : Option Stmt) (tag : Option Expr) (clauses : List Clause)
  /-- `*ast.TypeSwitchStmt`; `assign` is `x := y.(type)` or `y.(type)` -/
  | typeSwitch (init : Option Stmt) (assign : Stmt) (clauses : List Clause)
  /-- `*ast.SelectStmt` -/
  | select (clauses : List CommClause)
  /-- `*ast.GoStmt` -/
  | go (call : Expr)
  /-- `*ast.DeferStmt` -/
  | defer (call : Expr)
  /-- `*ast.DeclStmt` -/
  | decl (d : GenDecl)
  /-- `*ast.LabeledStmt` -/
  | labeled (label : Str) (s : Stmt)
/-- `*ast.CaseClause`; no expressions = `default` -/
inductive Clause
  | mk (exprs : List Expr) (body : List Stmt)
/-- `*ast.CommClause`; no communication = `default` -/
inductive CommClause
  | mk (comm : Option Stmt) (body : List Stmt)
/-- `*ast.ValueSpec` / `*ast.TypeSpec` -/
inductive Spec
  | value (names : List Str) (type : Option Expr) (values : List Expr)
  | type (name : Str) (tparams : List Field) (alias : Bool) (t : Expr)
/-- `*ast.GenDecl` (var / const / type): unparenthesised with one spec, or `tok ( specs… )` -/
inductive GenDecl
  | one (tok : DeclTok) (spec : Spec)
  | defs (tok : DeclTok) (specs : List Spec)
end

/-- `ast.Decl` (imports are handled by the File) -/
inductive Decl
  /-- `*ast.FuncDecl` -/
  | func (recv : Option Field) (name : Str) (tparams : List Field) (params : List Field)
      (results : Results) (body : List Stmt)
  | gen (d : GenDecl)

/-! ### the documented DSL element for every construct

`items x` are the items of the `*Statement` that the documented call chain builds
(`Id("f").Call(…)` is ONE statement with two items); `build x = .stmt (items x)`.
Operands in "argument position" (group items, operands of binary operators, a function's single
result type) are added as statements of their own (`Add(…)`).

Optional children go through `itemsO` / `itemsOS` (no items when absent); an absent child in a
position that must keep its separator is the `Empty()` token. -/

/-- `List(Id(n1), Id(n2), …)` -/
def idList (names : List Str) : Code := grp b!"List" (names.map fun n => .stmt [idTok n])

mutual
def items : Expr → List Code
  | .ident n => [idTok n]
  | .basicLit t => [idTok t]
  | .qual p n => [grp b!"Qual" [.tok .pkg p, idTok n]]
  | .selector x s => items x ++ [tokc b!"Dot", .tok (dynKind b!"Dot") s]
  | .call f args => items f ++ [grp b!"Call" (buildEs args)]
  | .callSpread f args last =>
      items f ++ [grp b!"Call" (buildEs args ++ [.stmt (items last ++ [opTok b!"..."])])]
  | .index x i => items x ++ [grp b!"Index" [.stmt (items i)]]
  | .indexList x is => items x ++ [grp b!"Types" (buildEs is)]
  | .slice x lo hi =>
      items x ++ [grp b!"Index"
        [if lo.isNone then tokc b!"Empty" else .stmt (itemsO lo),
         if hi.isNone then tokc b!"Empty" else .stmt (itemsO hi)]]
  | .slice3 x lo hi mx =>
      items x ++ [grp b!"Index"
        [if lo.isNone then tokc b!"Empty" else .stmt (itemsO lo),
         if hi.isNone then tokc b!"Empty" else .stmt (itemsO hi),
         if mx.isNone then tokc b!"Empty" else .stmt (itemsO mx)]]
  | .star x => opTok b!"*" :: items x
  | .unary op x => opTok op.text :: items x
  | .binary x op y => [.stmt (items x), opTok op.text, .stmt (items y)]
  | .paren x => [grp b!"Parens" [.stmt (items x)]]
  | .typeAssert x t =>
      items x ++ [grp b!"Assert" [if t.isNone then .stmt [tokc b!"Type"] else .stmt (itemsO t)]]
  | .compositeLit t elts => itemsO t ++ [grp b!"Values" (buildEs elts)]
  | .keyValue k v => [.stmt (items k), opTok b!":", .stmt (items v)]
  | .funcLit ps rs body =>
      [tokc b!"Func", grp b!"Params" (buildFs ps)] ++ itemsR rs ++ [grp b!"Block" (buildSs body)]
  | .arrayType len elem =>
      grp b!"Index" (if len.isNone then [] else [.stmt (itemsO len)]) :: items elem
  | .mapType k v => grp b!"Map" [.stmt (items k)] :: items v
  | .chanType dir t =>
      (if dir = .both then [tokc b!"Chan"]
       else if dir = .send then [tokc b!"Chan", opTok b!"<-"]
       else [opTok b!"<-", tokc b!"Chan"]) ++ items t
  | .funcType ps rs => [tokc b!"Func", grp b!"Params" (buildFs ps)] ++ itemsR rs
  | .structType fs => [grp b!"Struct" (buildFs fs)]
  | .interfaceType es => [grp b!"Interface" (buildIs es)]
  | .ellipsis t => opTok b!"..." :: itemsO t
def itemsO : Option Expr → List Code
  | none => []
  | some x => items x
def buildEs : List Expr → List Code
  | [] => []
  | x :: xs => .stmt (items x) :: buildEs xs
def itemsF : Field → List Code
  | .mk names t tag =>
      (if names.isEmpty then [] else [idList names]) ++ items t ++ tag.toList.map idTok
def buildFs : List Field → List Code
  | [] => []
  | f :: fs => .stmt (itemsF f) :: buildFs fs
def itemsR : Results → List Code
  | .none => []
  | .type t => [.stmt (items t)]
  | .fields fs => [grp b!"Params" (buildFs fs)]
def itemsI : IElem → List Code
  | .method n ps rs => [idTok n, grp b!"Params" (buildFs ps)] ++ itemsR rs
  | .embed t => items t
def buildIs : List IElem → List Code
  | [] => []
  | x :: xs => .stmt (itemsI x) :: buildIs xs
def itemsS : Stmt → List Code
  | .expr x => items x
  | .assign lhs op rhs => [grp b!"List" (buildEs lhs), opTok op.text, grp b!"List" (buildEs rhs)]
  | .incDec x op => items x ++ [opTok op.text]
  | .send ch v => [.stmt (items ch), opTok b!"<-", .stmt (items v)]
  | .ret rs => [grp b!"Return" (buildEs rs)]
  | .branch tok label => tokc tok.api :: label.toList.map idTok
  | .block body => [grp b!"Block" (buildSs body)]
  | .ifS init c body els =>
      [grp b!"If" ((if init.isNone then [] else [.stmt (itemsOS init)]) ++ [.stmt (items c)]),
       grp b!"Block" (buildSs body)] ++
      (if els.isNone then [] else tokc b!"Else" :: itemsOS els)
  | .forS cond body =>
      [grp b!"For" (if cond.isNone then [] else [.stmt (itemsO cond)]),
       grp b!"Block" (buildSs body)]
  | .forClause init cond post body =>
      [grp b!"For"
        [if init.isNone then tokc b!"Empty" else .stmt (itemsOS init),
         if cond.isNone then tokc b!"Empty" else .stmt (itemsO cond),
         if post.isNone then tokc b!"Empty" else .stmt (itemsOS post)],
       grp b!"Block" (buildSs body)]
  | .range key value define x body =>
      [grp b!"For"
        [.stmt ((if key.isNone then []
                 else
                   (if value.isNone then itemsO key
                    else [grp b!"List" [.stmt (itemsO key), .stmt (itemsO value)]]) ++
                   [opTok (if define then b!":=" else b!"=")]) ++
                tokc b!"Range" :: items x)],
       grp b!"Block" (buildSs body)]
  | .switch init tag cls =>
      [grp b!"Switch"
        (if init.isNone then (if tag.isNone then [] else [.stmt (itemsO tag)])
         else [.stmt (itemsOS init), if tag.isNone then tokc b!"Empty" else .stmt (itemsO tag)]),
       grp b!"Block" (buildCs cls)]
  | .typeSwitch init a cls =>
      [grp b!"Switch" ((if init.isNone then [] else [.stmt (itemsOS init)]) ++ [.stmt (itemsS a)]),
       grp b!"Block" (buildCs cls)]
  | .select cls => [tokc b!"Select", grp b!"Block" (buildCCs cls)]
  | .go x => tokc b!"Go" :: items x
  | .defer x => tokc b!"Defer" :: items x
  | .decl d => itemsG d
  | .labeled l s => [idTok l, opTok b!":", tokc b!"Line", .stmt (itemsS s)]
def itemsOS : Option Stmt → List Code
  | none => []
  | some s => itemsS s
def buildSs : List Stmt → List Code
  | [] => []
  | s :: ss => .stmt (itemsS s) :: buildSs ss
def itemsC : Clause → List Code
  | .mk xs body =>
      [if xs.isEmpty then tokc b!"Default" else grp b!"Case" (buildEs xs),
       grp b!"Block" (buildSs body)]
def buildCs : List Clause → List Code
  | [] => []
  | c :: cs => .stmt (itemsC c) :: buildCs cs
def itemsCC : CommClause → List Code
  | .mk comm body =>
      [if comm.isNone then tokc b!"Default" else grp b!"Case" [.stmt (itemsOS comm)],
       grp b!"Block" (buildSs body)]
def buildCCs : List CommClause → List Code
  | [] => []
  | c :: cs => .stmt (itemsCC c) :: buildCCs cs
def itemsSp : Spec → List Code
  | .value names t vals =>
      idList names ::
      (itemsO t ++ (if vals.isEmpty then [] else [opTok b!"=", grp b!"List" (buildEs vals)]))
  | .type n tps alias t =>
      idTok n ::
      ((if tps.isEmpty then [] else [grp b!"Types" (buildFs tps)]) ++
       (if alias then [opTok b!"="] else []) ++ items t)
def buildSps : List Spec → List Code
  | [] => []
  | s :: ss => .stmt (itemsSp s) :: buildSps ss
def itemsG : GenDecl → List Code
  | .one tok s => tokc tok.api :: itemsSp s
  | .defs tok ss => [tokc tok.api, grp b!"Defs" (buildSps ss)]
end

def itemsD : Decl → List Code
  | .func recv name tps ps rs body =>
      tokc b!"Func" ::
      ((recv.toList.map fun r => grp b!"Params" [.stmt (itemsF r)]) ++
       [idTok name] ++
       (if tps.isEmpty then [] else [grp b!"Types" (buildFs tps)]) ++
       [grp b!"Params" (buildFs ps)] ++ itemsR rs ++ [grp b!"Block" (buildSs body)])
  | .gen d => itemsG d

def build (x : Expr) : Code := .stmt (items x)
def buildS (s : Stmt) : Code := .stmt (itemsS s)
def buildF (f : Field) : Code := .stmt (itemsF f)
def buildI (x : IElem) : Code := .stmt (itemsI x)
def buildC (c : Clause) : Code := .stmt (itemsC c)
def buildCC (c : CommClause) : Code := .stmt (itemsCC c)
def buildSp (s : Spec) : Code := .stmt (itemsSp s)
def buildG (d : GenDecl) : Code := .stmt (itemsG d)
def buildD (d : Decl) : Code := .stmt (itemsD d)
/-- the body of a `File`: `f.Add(decl)` for every declaration -/
def buildFile (ds : List Decl) : Code := .group Code.fileInfo (ds.map buildD)

/-! ### the reference printer

Optional children are printed by `printO` / `printOS` (nothing when absent); text that
accompanies an optional child is guarded by `if child.isNone`. -/

/-- the items of a brace / parenthesis delimited multi-line list: one per line -/
def lines : List Str → Str
  | [] => []
  | x :: xs => b!"\n" ++ Str.join b!"\n" (x :: xs) ++ b!"\n"

/-- the statements of a case clause: each on a line of its own, after the colon -/
def linesOpen : List Str → Str
  | [] => []
  | x :: xs => b!"\n" ++ Str.join b!"\n" (x :: xs)

/-- an optional atom after a space -/
def spaceAtom : Option Str → Str
  | none => []
  | some s => b!" " ++ s

def ChanDir.text : ChanDir → Str
  | .both => b!"chan " | .send => b!"chan <- " | .recv => b!"<- chan "

mutual
def print (e : Code.Env) : Expr → Str
  | .ident n => n
  | .basicLit t => t
  | .qual p n => e.name p ++ b!"." ++ n
  | .selector x s => print e x ++ b!" . " ++ s
  | .call f args => print e f ++ b!" (" ++ Str.join b!"," (printEs e args) ++ b!")"
  | .callSpread f args last =>
      print e f ++ b!" (" ++ Str.join b!"," (printEs e args ++ [print e last ++ b!" ..."]) ++ b!")"
  | .index x i => print e x ++ b!" [" ++ print e i ++ b!"]"
  | .indexList x is => print e x ++ b!" [" ++ Str.join b!"," (printEs e is) ++ b!"]"
  | .slice x lo hi => print e x ++ b!" [" ++ printO e lo ++ b!":" ++ printO e hi ++ b!"]"
  | .slice3 x lo hi mx =>
      print e x ++ b!" [" ++ printO e lo ++ b!":" ++ printO e hi ++ b!":" ++ printO e mx ++ b!"]"
  | .star x => b!"* " ++ print e x
  | .unary op x => op.text ++ b!" " ++ print e x
  | .binary x op y => print e x ++ b!" " ++ op.text ++ b!" " ++ print e y
  | .paren x => b!"(" ++ print e x ++ b!")"
  | .typeAssert x t => print e x ++ b!" .(" ++ (if t.isNone then b!"type" else printO e t) ++ b!")"
  | .compositeLit t elts =>
      (if t.isNone then [] else printO e t ++ b!" ") ++ b!"{" ++ Str.join b!"," (printEs e elts) ++ b!"}"
  | .keyValue k v => print e k ++ b!" : " ++ print e v
  | .funcLit ps rs body =>
      b!"func (" ++ Str.join b!"," (printFs e ps) ++ b!")" ++ printR e rs ++
      b!" {" ++ lines (printSs e body) ++ b!"}"
  | .arrayType len elem => b!"[" ++ printO e len ++ b!"] " ++ print e elem
  | .mapType k v => b!"map[" ++ print e k ++ b!"] " ++ print e v
  | .chanType dir t => dir.text ++ print e t
  | .funcType ps rs => b!"func (" ++ Str.join b!"," (printFs e ps) ++ b!")" ++ printR e rs
  | .structType fs => b!"struct{" ++ lines (printFs e fs) ++ b!"}"
  | .interfaceType es => b!"interface{" ++ lines (printIs e es) ++ b!"}"
  | .ellipsis t => b!"..." ++ (if t.isNone then [] else b!" " ++ printO e t)
def printO (e : Code.Env) : Option Expr → Str
  | none => []
  | some x => print e x
def printEs (e : Code.Env) : List Expr → List Str
  | [] => []
  | x :: xs => print e x :: printEs e xs
def printF (e : Code.Env) : Field → Str
  | .mk names t tag =>
      (if names.isEmpty then [] else Str.join b!"," names ++ b!" ") ++ print e t ++ spaceAtom tag
def printFs (e : Code.Env) : List Field → List Str
  | [] => []
  | f :: fs => printF e f :: printFs e fs
def printR (e : Code.Env) : Results → Str
  | .none => []
  | .type t => b!" " ++ print e t
  | .fields fs => b!" (" ++ Str.join b!"," (printFs e fs) ++ b!")"
def printI (e : Code.Env) : IElem → Str
  | .method n ps rs => n ++ b!" (" ++ Str.join b!"," (printFs e ps) ++ b!")" ++ printR e rs
  | .embed t => print e t
def printIs (e : Code.Env) : List IElem → List Str
  | [] => []
  | x :: xs => printI e x :: printIs e xs
def printS (e : Code.Env) : Stmt → Str
  | .expr x => print e x
  | .assign lhs op rhs =>
      Str.join b!"," (printEs e lhs) ++ b!" " ++ op.text ++ b!" " ++ Str.join b!"," (printEs e rhs)
  | .incDec x op => print e x ++ b!" " ++ op.text
  | .send ch v => print e ch ++ b!" <- " ++ print e v
  | .ret rs => b!"return " ++ Str.join b!"," (printEs e rs)
  | .branch tok label => tok.text ++ spaceAtom label
  | .block body => b!"{" ++ lines (printSs e body) ++ b!"}"
  | .ifS init c body els =>
      b!"if " ++ (if init.isNone then [] else printOS e init ++ b!";") ++ print e c ++
      b!" {" ++ lines (printSs e body) ++ b!"}" ++
      (if els.isNone then [] else b!" else " ++ printOS e els)
  | .forS cond body => b!"for " ++ printO e cond ++ b!" {" ++ lines (printSs e body) ++ b!"}"
  | .forClause init cond post body =>
      b!"for " ++ printOS e init ++ b!";" ++ printO e cond ++ b!";" ++ printOS e post ++
      b!" {" ++ lines (printSs e body) ++ b!"}"
  | .range key value define x body =>
      b!"for " ++
      (if key.isNone then []
       else printO e key ++ (if value.isNone then [] else b!"," ++ printO e value) ++
            (if define then b!" := " else b!" = ")) ++
      b!"range " ++ print e x ++ b!" {" ++ lines (printSs e body) ++ b!"}"
  | .switch init tag cls =>
      b!"switch " ++ (if init.isNone then [] else printOS e init ++ b!";") ++ printO e tag ++
      b!" {" ++ lines (printCs e cls) ++ b!"}"
  | .typeSwitch init a cls =>
      b!"switch " ++ (if init.isNone then [] else printOS e init ++ b!";") ++ printS e a ++
      b!" {" ++ lines (printCs e cls) ++ b!"}"
  | .select cls => b!"select {" ++ lines (printCCs e cls) ++ b!"}"
  | .go x => b!"go " ++ print e x
  | .defer x => b!"defer " ++ print e x
  | .decl d => printG e d
  | .labeled l s => l ++ b!" : \n " ++ printS e s
def printOS (e : Code.Env) : Option Stmt → Str
  | none => []
  | some s => printS e s
def printSs (e : Code.Env) : List Stmt → List Str
  | [] => []
  | s :: ss => printS e s :: printSs e ss
def printC (e : Code.Env) : Clause → Str
  | .mk xs body =>
      (if xs.isEmpty then b!"default:" else b!"case " ++ Str.join b!"," (printEs e xs) ++ b!":") ++
      b!" " ++ linesOpen (printSs e body)
def printCs (e : Code.Env) : List Clause → List Str
  | [] => []
  | c :: cs => printC e c :: printCs e cs
def printCC (e : Code.Env) : CommClause → Str
  | .mk comm body =>
      (if comm.isNone then b!"default:" else b!"case " ++ printOS e comm ++ b!":") ++
      b!" " ++ linesOpen (printSs e body)
def printCCs (e : Code.Env) : List CommClause → List Str
  | [] => []
  | c :: cs => printCC e c :: printCCs e cs
def printSp (e : Code.Env) : Spec → Str
  | .value names t vals =>
      Str.join b!"," names ++ (if t.isNone then [] else b!" " ++ printO e t) ++
      (if vals.isEmpty then [] else b!" = " ++ Str.join b!"," (printEs e vals))
  | .type n tps alias t =>
      n ++ (if tps.isEmpty then [] else b!" [" ++ Str.join b!"," (printFs e tps) ++ b!"]") ++
      (if alias then b!" =" else []) ++ b!" " ++ print e t
def printSps (e : Code.Env) : List Spec → List Str
  | [] => []
  | s :: ss => printSp e s :: printSps e ss
def printG (e : Code.Env) : GenDecl → Str
  | .one tok s => tok.text ++ b!" " ++ printSp e s
  | .defs tok ss => tok.text ++ b!" (" ++ lines (printSps e ss) ++ b!")"
end

/-- the receiver of a method declaration -/
def printRecv (e : Code.Env) : Option Field → Str
  | none => []
  | some r => b!"(" ++ printF e r ++ b!") "

def printD (e : Code.Env) : Decl → Str
  | .func recv name tps ps rs body =>
      b!"func " ++ printRecv e recv ++ name ++
      (if tps.isEmpty then [] else b!" [" ++ Str.join b!"," (printFs e tps) ++ b!"]") ++
      b!" (" ++ Str.join b!"," (printFs e ps) ++ b!")" ++ printR e rs ++
      b!" {" ++ lines (printSs e body) ++ b!"}"
  | .gen d => printG e d

/-- the declarations of a file, each preceded by a newline (the file Group is multi-line
    without delimiters) -/
def printFile (e : Code.Env) (ds : List Decl) : Str := linesOpen (ds.map (printD e))

/-! ### what the renderer genuinely needs

* `Qual`: the package token must not be null (not the local package, not dot-imported), as the
  printer writes `name.`;
* `List(…)`/`Types(…)` must have an item where the printer writes one unconditionally:
  a `List()` without items is a null item (no space is written for it), `Types()` without
  items writes nothing but keeps its space. -/

mutual
def wf (np : Str → Bool) : Expr → Bool
  | .ident _ => true
  | .basicLit _ => true
  | .qual p _ => !np p
  | .selector x _ => wf np x
  | .call f args => wf np f && wfEs np args
  | .callSpread f args last => wf np f && wfEs np args && wf np last
  | .index x i => wf np x && wf np i
  | .indexList x is => wf np x && !is.isEmpty && wfEs np is
  | .slice x lo hi => wf np x && wfO np lo && wfO np hi
  | .slice3 x lo hi mx => wf np x && wfO np lo && wfO np hi && wfO np mx
  | .star x => wf np x
  | .unary _ x => wf np x
  | .binary x _ y => wf np x && wf np y
  | .paren x => wf np x
  | .typeAssert x t => wf np x && wfO np t
  | .compositeLit t elts => wfO np t && wfEs np elts
  | .keyValue k v => wf np k && wf np v
  | .funcLit ps rs body => wfFs np ps && wfR np rs && wfSs np body
  | .arrayType len elem => wfO np len && wf np elem
  | .mapType k v => wf np k && wf np v
  | .chanType _ t => wf np t
  | .funcType ps rs => wfFs np ps && wfR np rs
  | .structType fs => wfFs np fs
  | .interfaceType es => wfIs np es
  | .ellipsis t => wfO np t
def wfO (np : Str → Bool) : Option Expr → Bool
  | none => true
  | some x => wf np x
def wfEs (np : Str → Bool) : List Expr → Bool
  | [] => true
  | x :: xs => wf np x && wfEs np xs
def wfF (np : Str → Bool) : Field → Bool
  | .mk _ t _ => wf np t
def wfFs (np : Str → Bool) : List Field → Bool
  | [] => true
  | f :: fs => wfF np f && wfFs np fs
def wfR (np : Str → Bool) : Results → Bool
  | .none => true
  | .type t => wf np t
  | .fields fs => wfFs np fs
def wfI (np : Str → Bool) : IElem → Bool
  | .method _ ps rs => wfFs np ps && wfR np rs
  | .embed t => wf np t
def wfIs (np : Str → Bool) : List IElem → Bool
  | [] => true
  | x :: xs => wfI np x && wfIs np xs
def wfS (np : Str → Bool) : Stmt → Bool
  | .expr x => wf np x
  | .assign lhs _ rhs => !lhs.isEmpty && !rhs.isEmpty && wfEs np lhs && wfEs np rhs
  | .incDec x _ => wf np x
  | .send ch v => wf np ch && wf np v
  | .ret rs => wfEs np rs
  | .branch _ _ => true
  | .block body => wfSs np body
  | .ifS init c body els => wfOS np init && wf np c && wfSs np body && wfOS np els
  | .forS cond body => wfO np cond && wfSs np body
  | .forClause init cond post body => wfOS np init && wfO np cond && wfOS np post && wfSs np body
  | .range key value _ x body => wfO np key && wfO np value && wf np x && wfSs np body
  | .switch init tag cls => wfOS np init && wfO np tag && wfCs np cls
  | .typeSwitch init a cls => wfOS np init && wfS np a && wfCs np cls
  | .select cls => wfCCs np cls
  | .go x => wf np x
  | .defer x => wf np x
  | .decl d => wfG np d
  | .labeled _ s => wfS np s
def wfOS (np : Str → Bool) : Option Stmt → Bool
  | none => true
  | some s => wfS np s
def wfSs (np : Str → Bool) : List Stmt → Bool
  | [] => true
  | s :: ss => wfS np s && wfSs np ss
def wfC (np : Str → Bool) : Clause → Bool
  | .mk xs body => wfEs np xs && wfSs np body
def wfCs (np : Str → Bool) : List Clause → Bool
  | [] => true
  | c :: cs => wfC np c && wfCs np cs
def wfCC (np : Str → Bool) : CommClause → Bool
  | .mk comm body => wfOS np comm && wfSs np body
def wfCCs (np : Str → Bool) : List CommClause → Bool
  | [] => true
  | c :: cs => wfCC np c && wfCCs np cs
def wfSp (np : Str → Bool) : Spec → Bool
  | .value names t vals => !names.isEmpty && wfO np t && wfEs np vals
  | .type _ tps _ t => wfFs np tps && wf np t
def wfSps (np : Str → Bool) : List Spec → Bool
  | [] => true
  | s :: ss => wfSp np s && wfSps np ss
def wfG (np : Str → Bool) : GenDecl → Bool
  | .one _ s => wfSp np s
  | .defs _ ss => wfSps np ss
end

def wfRecv (np : Str → Bool) : Option Field → Bool
  | none => true
  | some r => wfF np r

def wfD (np : Str → Bool) : Decl → Bool
  | .func recv _ tps ps rs body =>
      wfRecv np recv && wfFs np tps && wfFs np ps && wfR np rs && wfSs np body
  | .gen d => wfG np d

def wfFile (np : Str → Bool) (ds : List Decl) : Bool := ds.all (wfD np)

/-! The equation lemmas of the big mutual definitions are generated here, once, so that the
    proof files importing this module do not pay for them again. -/
theorem eqns_realized : True := by
  have _ := @items.eq_1
  have _ := @itemsO.eq_1
  have _ := @itemsOS.eq_1
  have _ := @itemsF.eq_1
  have _ := @itemsR.eq_1
  have _ := @itemsI.eq_1
  have _ := @itemsS.eq_1
  have _ := @itemsC.eq_1
  have _ := @itemsCC.eq_1
  have _ := @itemsSp.eq_1
  have _ := @itemsG.eq_1
  have _ := @buildEs.eq_1
  have _ := @buildFs.eq_1
  have _ := @buildIs.eq_1
  have _ := @buildSs.eq_1
  have _ := @buildCs.eq_1
  have _ := @buildCCs.eq_1
  have _ := @buildSps.eq_1
  have _ := @print.eq_1
  have _ := @printO.eq_1
  have _ := @printOS.eq_1
  have _ := @printF.eq_1
  have _ := @printR.eq_1
  have _ := @printI.eq_1
  have _ := @printS.eq_1
  have _ := @printC.eq_1
  have _ := @printCC.eq_1
  have _ := @printSp.eq_1
  have _ := @printG.eq_1
  have _ := @printEs.eq_1
  have _ := @printFs.eq_1
  have _ := @printIs.eq_1
  have _ := @printSs.eq_1
  have _ := @printCs.eq_1
  have _ := @printCCs.eq_1
  have _ := @printSps.eq_1
  have _ := @wf.eq_1
  have _ := @wfO.eq_1
  have _ := @wfOS.eq_1
  have _ := @wfF.eq_1
  have _ := @wfR.eq_1
  have _ := @wfI.eq_1
  have _ := @wfS.eq_1
  have _ := @wfC.eq_1
  have _ := @wfCC.eq_1
  have _ := @wfSp.eq_1
  have _ := @wfG.eq_1
  have _ := @wfEs.eq_1
  have _ := @wfFs.eq_1
  have _ := @wfIs.eq_1
  have _ := @wfSs.eq_1
  have _ := @wfCs.eq_1
  have _ := @wfCCs.eq_1
  have _ := @wfSps.eq_1
  have _ := @itemsD.eq_1
  have _ := @printD.eq_1
  have _ := @wfD.eq_1
  trivial

end GoSyn
