import JenVerif.Str
import JenVerif.Quote
/-
  Spec-side READERS for Go literals, transcribed from the Go language specification
  (sections "Source code representation", "Rune literals", "String literals"), NOT from
  `strconv`.  They are executable and total (fuel / structural recursion) and core-only.

    string_lit             = raw_string_lit | interpreted_string_lit .
    raw_string_lit         = "`" { unicode_char | newline } "`" .
    interpreted_string_lit = `"` { unicode_value | byte_value } `"` .
    rune_lit         = "'" ( unicode_value | byte_value ) "'" .
    unicode_value    = unicode_char | little_u_value | big_u_value | escaped_char .
    byte_value       = octal_byte_value | hex_byte_value .
    octal_byte_value = `\` octal_digit octal_digit octal_digit .
    hex_byte_value   = `\` "x" hex_digit hex_digit .
    little_u_value   = `\` "u" hex_digit hex_digit hex_digit hex_digit .
    big_u_value      = `\` "U" hex_digit hex_digit hex_digit hex_digit
                               hex_digit hex_digit hex_digit hex_digit .
    escaped_char     = `\` ( "a" | "b" | "f" | "n" | "r" | "t" | "v" | `\` | "'" | `"` ) .

  Source text is UTF-8; "implementation restriction: for compatibility with other tools, a
  compiler may disallow the NUL character (U+0000)"; a byte order mark is only tolerated as the
  very first code point of a file.  The Go scanner (go/scanner, used by gofmt and the compiler)
  rejects NUL, a BOM anywhere else, and any invalid UTF-8 – so do these readers.

  The UTF-8 codec is `Quote.decodeRune` / `Quote.encodeRune`; `JenVerif/Lemmas/Utf8.lean`
  proves that these two are mutually inverse on valid code points / well-formed sequences, which
  pins `decodeRune` to the (simple, arithmetic) `encodeRune`.
-/

namespace GoLex

/-- value of a hex digit `0-9 a-f A-F` -/
def hexVal (b : UInt8) : Option Nat :=
  if 0x30 ≤ b && b ≤ 0x39 then some (b.toNat - 0x30)
  else if 0x61 ≤ b && b ≤ 0x66 then some (b.toNat - 0x61 + 10)
  else if 0x41 ≤ b && b ≤ 0x46 then some (b.toNat - 0x41 + 10)
  else none

/-- value of an octal digit `0-7` -/
def octVal (b : UInt8) : Option Nat :=
  if 0x30 ≤ b && b ≤ 0x37 then some (b.toNat - 0x30) else none

/-- read exactly `n` hex digits (big endian), accumulating into `acc` -/
def readHex : Nat → Nat → Str → Option (Nat × Str)
  | 0, acc, s => some (acc, s)
  | _ + 1, _, [] => none
  | n + 1, acc, c :: s =>
    match hexVal c with
    | none => none
    | some d => readHex n (acc * 16 + d) s

/-- read exactly `n` octal digits -/
def readOct : Nat → Nat → Str → Option (Nat × Str)
  | 0, acc, s => some (acc, s)
  | _ + 1, _, [] => none
  | n + 1, acc, c :: s =>
    match octVal c with
    | none => none
    | some d => readOct n (acc * 8 + d) s

/-- what one element of a literal denotes: a `byte_value` or a `unicode_value` -/
inductive Item where
  | byte (b : UInt8)
  | rune (r : Nat)
  deriving Repr, DecidableEq

/-- contribution of an item to the value of a string literal -/
def Item.bytes : Item → Str
  | .byte b => [b]
  | .rune r => Quote.encodeRune r

/-- value of an item as (the only element of) a rune literal -/
def Item.value : Item → Nat
  | .byte b => b.toNat
  | .rune r => r

/-- a code point usable by `\u` / `\U`: "the escapes \u and \U represent Unicode code points so
    within them some values are illegal, in particular those above 0x10FFFF and surrogate
    halves" -/
def validCodePoint (r : Nat) : Bool := r ≤ 0x10FFFF && !(0xD800 ≤ r && r ≤ 0xDFFF)

/-- the part of an escape after the backslash; `q` is the quote character of the enclosing
    literal (`"` for strings: `\"` legal, `\'` illegal; `'` for runes: the other way round). -/
def readEscape (q : UInt8) : Str → Option (Item × Str)
  | [] => none
  | c :: s =>
    if c == 0x61 then some (.rune 7, s)            -- \a  U+0007
    else if c == 0x62 then some (.rune 8, s)       -- \b  U+0008
    else if c == 0x66 then some (.rune 12, s)      -- \f  U+000C
    else if c == 0x6E then some (.rune 10, s)      -- \n  U+000A
    else if c == 0x72 then some (.rune 13, s)      -- \r  U+000D
    else if c == 0x74 then some (.rune 9, s)       -- \t  U+0009
    else if c == 0x76 then some (.rune 11, s)      -- \v  U+000B
    else if c == 0x5C then some (.rune 0x5C, s)    -- \\
    else if c == 0x27 || c == 0x22 then            -- \' only in rune literals, \" only in strings
      if c == q then some (.rune c.toNat, s) else none
    else if c == 0x78 then                         -- \xHH
      match readHex 2 0 s with
      | some (v, rest) => some (.byte (UInt8.ofNat v), rest)
      | none => none
    else if c == 0x75 then                         -- \uHHHH
      match readHex 4 0 s with
      | some (v, rest) => if validCodePoint v then some (.rune v, rest) else none
      | none => none
    else if c == 0x55 then                         -- \UHHHHHHHH
      match readHex 8 0 s with
      | some (v, rest) => if validCodePoint v then some (.rune v, rest) else none
      | none => none
    else
      match readOct 3 0 (c :: s) with              -- \ooo, value ≤ 255
      | some (v, rest) => if v ≤ 255 then some (.byte (UInt8.ofNat v), rest) else none
      | none => none

/-- one source character: a well-formed UTF-8 sequence (code point, width), other than NUL and
    the byte order mark.  `decodeRune` answers `(U+FFFD, 1)` exactly on malformed input (a genuine
    U+FFFD has width 3) and width 0 on empty input. -/
def readChar (s : Str) : Option (Nat × Nat) :=
  let (r, w) := Quote.decodeRune s
  if w == 0 then none
  else if w == 1 && r == Quote.runeError then none
  else if r == 0 || r == 0xFEFF then none
  else some (r, w)

/-- one element of an interpreted string literal / rune literal with quote character `q`
    (the caller has already checked that the next byte is not the closing quote for strings;
    for rune literals an unescaped `'` is illegal, which the `r == q.toNat` test covers). -/
def readItem (q : UInt8) : Str → Option (Item × Str)
  | [] => none
  | c :: t =>
    if c == 0x5C then readEscape q t
    else
      match readChar (c :: t) with
      | none => none
      | some (r, w) =>
        if r == 10 || r == q.toNat then none       -- newline / the quote itself
        else some (.rune r, (c :: t).drop w)

/-- body of an interpreted string literal, after the opening quote -/
def readStringBody : Nat → Str → Option (Str × Str)
  | 0, _ => none
  | _ + 1, [] => none
  | fuel + 1, c :: t =>
    if c == 0x22 then some ([], t)
    else
      match readItem 0x22 (c :: t) with
      | none => none
      | some (e, t') =>
        match readStringBody fuel t' with
        | none => none
        | some (v, rest) => some (e.bytes ++ v, rest)

/-- read one interpreted string literal off the front of `s`: (value, rest of the stream) -/
def readString : Str → Option (Str × Str)
  | [] => none
  | c :: t => if c == 0x22 then readStringBody (t.length + 1) t else none

/-- read one rune literal off the front of `s`: (code point value, rest of the stream) -/
def readRune : Str → Option (Nat × Str)
  | [] => none
  | c :: t =>
    if c == 0x27 then
      match readItem 0x27 t with
      | none => none
      | some (e, t') =>
        match t' with
        | [] => none
        | c' :: rest => if c' == 0x27 then some (e.value, rest) else none
    else none

/-- body of a raw string literal, after the opening back quote; "carriage return characters
    ('\r') inside raw string literals are discarded from the raw string value" -/
def readRawBody : Nat → Str → Option (Str × Str)
  | 0, _ => none
  | _ + 1, [] => none
  | fuel + 1, c :: t =>
    if c == 0x60 then some ([], t)
    else
      match readChar (c :: t) with
      | none => none
      | some (r, w) =>
        match readRawBody fuel ((c :: t).drop w) with
        | none => none
        | some (v, rest) =>
          some ((if r == 13 then [] else Quote.encodeRune r) ++ v, rest)

/-- read one raw string literal off the front of `s`: (value, rest of the stream) -/
def readRaw : Str → Option (Str × Str)
  | [] => none
  | c :: t => if c == 0x60 then readRawBody (t.length + 1) t else none

/-- character-level acceptance of one line of source text (what the scanner checks for every
    character before tokenising): well-formed UTF-8, no NUL, no BOM, and no newline.
    `fuel` ≥ length of the text. -/
def scanLine : Nat → Str → Bool
  | _, [] => true
  | 0, _ :: _ => false
  | fuel + 1, c :: t =>
    match readChar (c :: t) with
    | none => false
    | some (r, w) => r != 10 && scanLine fuel ((c :: t).drop w)

/-! sanity checks of the readers themselves (evaluated by the kernel) -/

open Str in
example : readString b!"\"a\\tb\\x00\\101\\u00e9\\\"\" + x" = some (b!"a\tb\x00Aé\"", b!" + x") := by decide
open Str in
example : readString b!"\"a\\'b\"" = none := by decide          -- \' illegal in strings
open Str in
example : readString b!"\"a\nb\"" = none := by decide           -- raw newline
open Str in
example : readString b!"\"\\ud800\"" = none := by decide        -- surrogate
open Str in
example : readString b!"\"\\400\"" = none := by decide          -- octal > 255
open Str in
example : readString b!"\"abc" = none := by decide              -- unterminated
example : readString [0x22, 0xFF, 0x22] = none := by decide     -- invalid UTF-8
example : readString [0x22, 0xEF, 0xBB, 0xBF, 0x22] = none := by decide   -- BOM
example : readString [0x22, 0x00, 0x22] = none := by decide     -- NUL
open Str in
example : readRune b!"'\\''x" = some (0x27, b!"x") := by decide
open Str in
example : readRune b!"'''" = none := by decide
open Str in
example : readRune b!"'\\\"'" = none := by decide               -- \" illegal in rune literals
open Str in
example : readRune b!"'é'" = some (0xE9, []) := by decide
open Str in
example : readRune b!"'ab'" = none := by decide
open Str in
example : readRaw b!"`a\\n\r\nb`c" = some (b!"a\\n\nb", b!"c") := by decide
open Str in
example : scanLine 9 b!"\"aé\\n\"" = true := by decide
open Str in
example : scanLine 9 b!"\"a\nb\"" = false := by decide
example : scanLine 9 [0x22, 0xEF, 0xBB, 0xBF, 0x22] = false := by decide

end GoLex
