import JenVerif.Str
/-
  Positional digits, for any base: the lemmas are about every printer `G` that satisfies the
  recursion equation of `Str.natDigitsAux` / `Str.natHexAux` (`Prints`), and about every reader that
  consumes a digit `d` by `a ↦ a * b + d`; all of them go by the one induction `Prints.ind`.  The
  decimal and the hexadecimal round trips of `Lemmas/LitRT` and the facts about `Str.natDec` in
  `Lemmas/NameChoice` are instances.
-/
namespace Digits

def decDigit (d : Nat) : UInt8 := UInt8.ofNat (48 + d)

/-- `G fuel n acc` prints `n` in base `b` with the digit alphabet `dig` in front of `acc` -/
def Prints (b : Nat) (dig : Nat → UInt8) (G : Nat → Nat → Str → Str) : Prop :=
  ∀ f n acc, G (f + 1) n acc = if n < b then dig n :: acc else G f (n / b) (dig (n % b) :: acc)

theorem prints_dec : Prints 10 decDigit Str.natDigitsAux := fun _ _ _ => rfl

theorem prints_hex : Prints 16 Str.hexDigit Str.natHexAux := fun _ _ _ => rfl

variable {b : Nat} {dig : Nat → UInt8} {G : Nat → Nat → Str → Str}

/-- induction along the printer: a number below the base is one digit in front of `acc`; any other
    is its last digit in front of `acc` and the rest of the number in front of that.  (The fuel is
    dealt with here, once.) -/
theorem Prints.ind (hG : Prints b dig G) (hb : 1 < b) {C : Nat → Str → Str → Prop}
    (digit : ∀ n acc, n < b → C n acc (dig n :: acc))
    (more : ∀ n acc r, b ≤ n → C (n / b) (dig (n % b) :: acc) r → C n acc r) :
    ∀ fuel n acc, n < fuel → C n acc (G fuel n acc) := by
  intro fuel
  induction fuel with
  | zero => intro n acc h; exact absurd h (Nat.not_lt_zero n)
  | succ f ih =>
    intro n acc h
    rw [hG]
    split
    · next hn => exact digit n acc hn
    · next hn =>
      have hbn : b ≤ n := Nat.le_of_not_lt hn
      have hpos : 0 < n := Nat.lt_of_lt_of_le (Nat.zero_lt_of_lt hb) hbn
      exact more n acc _ hbn
        (ih _ _ (Nat.lt_of_lt_of_le (Nat.div_lt_self hpos hb) (Nat.le_of_lt_succ h)))

/-- **reading back.**  A reader that consumes a digit `d` by `a ↦ a * b + d`, started at `0` on the
    digits of `n` followed by `acc`, is in state `n` when it reaches `acc`: the accumulator of the
    printer is the rest of the reader's input. -/
theorem read_aux (hG : Prints b dig G) {α : Type} (F : Nat → Str → α) (hb : 1 < b)
    (hF : ∀ a d cs, d < b → F a (dig d :: cs) = F (a * b + d) cs) :
    ∀ fuel n acc, n < fuel → F 0 (G fuel n acc) = F n acc :=
  hG.ind hb (C := fun n acc r => F 0 r = F n acc)
    (fun n acc hn => by rw [hF 0 n acc hn, Nat.zero_mul, Nat.zero_add])
    (fun _ _ _ _ ih => by
      rw [ih, hF _ _ _ (Nat.mod_lt _ (Nat.zero_lt_of_lt hb)), Nat.div_add_mod'])

/-- the first digit is not zero, except for `n = 0`, which is the single digit zero -/
theorem aux_head (hG : Prints b dig G) (hb : 1 < b) :
    ∀ fuel n acc, n < fuel → ∃ d rest, G fuel n acc = dig d :: rest ∧ d < b ∧
      (d = 0 → n = 0 ∧ rest = acc) :=
  hG.ind hb (C := fun n acc r => ∃ d rest, r = dig d :: rest ∧ d < b ∧ (d = 0 → n = 0 ∧ rest = acc))
    (fun n acc hn => ⟨n, acc, rfl, hn, fun h0 => ⟨h0, rfl⟩⟩)
    -- `n / b ≥ 1`, so its first digit is not zero
    (fun _ _ _ hbn ⟨d, rest, he, hlt, hz⟩ => ⟨d, rest, he, hlt, fun h0 =>
      absurd (hz h0).1 (Nat.ne_of_gt (Nat.div_pos hbn (Nat.zero_lt_of_lt hb)))⟩)

theorem aux_all (hG : Prints b dig G) (hb : 1 < b) {P : UInt8 → Bool}
    (hP : ∀ d, d < b → P (dig d) = true) :
    ∀ fuel n acc, n < fuel → acc.all P = true → (G fuel n acc).all P = true :=
  hG.ind hb (C := fun n acc r => acc.all P = true → r.all P = true)
    (fun n _ hn h => by rw [List.all_cons, hP n hn, h]; rfl)
    (fun _ _ _ _ ih h => ih (by
      rw [List.all_cons, hP _ (Nat.mod_lt _ (Nat.zero_lt_of_lt hb)), h]; rfl))

theorem decDigit_toNat {d : Nat} (h : d < 10) : (decDigit d).toNat = 48 + d :=
  UInt8.toNat_ofNat_of_lt' (by simp [UInt8.size]; omega)

theorem natDec_head (n : Nat) : ∃ d rest, Str.natDec n = decDigit d :: rest ∧ d < 10 ∧
    (d = 0 → n = 0 ∧ rest = []) :=
  aux_head prints_dec (by decide) _ _ _ (Nat.lt_succ_self n)

theorem natDec_all {P : UInt8 → Bool} (hP : ∀ d, d < 10 → P (decDigit d) = true) (n : Nat) :
    (Str.natDec n).all P = true :=
  aux_all prints_dec (by decide) hP _ _ _ (Nat.lt_succ_self n) rfl

theorem natDec_val (n : Nat) : (Str.natDec n).foldl (fun a c => a * 10 + (c.toNat - 48)) 0 = n :=
  read_aux prints_dec (fun a s => s.foldl (fun a c => a * 10 + (c.toNat - 48)) a) (by decide)
    (fun a d cs hd => by rw [List.foldl_cons, decDigit_toNat hd, Nat.add_sub_cancel_left])
    (n + 1) n [] (Nat.lt_succ_self n)

end Digits
