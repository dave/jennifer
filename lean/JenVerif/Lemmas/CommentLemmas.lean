import JenVerif.Render
import JenVerif.Spec.GoComment
/-
  Comment containment: what `renderComment` writes for a text in `InDomain` is, for the Go
  specification's definition of a comment, exactly ONE comment whose text is the given text, and
  scanning stops right behind it — generated text cannot escape its comment.
-/

namespace CommentLemmas
open List

/-- the property's domain: the text is not itself a raw comment and contains no `*/` -/
def InDomain (t : Str) : Prop :=
  ¬ (Str.isPrefixOf b!"//" t = true) ∧ ¬ (Str.isPrefixOf b!"/*" t = true) ∧
    Str.hasSub t b!"*/" = false

instance (t : Str) : Decidable (InDomain t) := by unfold InDomain; exact inferInstance

theorem elem_false_iff (t : Str) (c : UInt8) : t.elem c = false ↔ c ∉ t := by
  simp

theorem spanLine_append (u rest : Str) (h : u.elem 10 = false) :
    GoComment.spanLine (u ++ rest) =
      (u ++ (GoComment.spanLine rest).1, (GoComment.spanLine rest).2) := by
  rw [elem_false_iff] at h
  induction u with
  | nil => rfl
  | cons c cs ih =>
    simp only [mem_cons, not_or] at h
    have hc : ¬ (c == 10) = true := by
      intro e; simp only [beq_iff_eq] at e; exact h.1 e.symm
    simp only [cons_append, GoComment.spanLine, if_neg hc, ih h.2]

/-- a `*` at the end of `u` is harmless: `**/` ends at the second star -/
theorem spanGeneral_append (u rest : Str) (h : Str.hasSub u b!"*/" = false) :
    GoComment.spanGeneral (u ++ 42 :: 47 :: rest) = some (u ++ [42, 47], rest) := by
  induction u with
  | nil => simp [GoComment.spanGeneral]
  | cons c cs ih =>
    simp only [Str.hasSub, Bool.or_eq_false_iff] at h
    have ih' := ih h.2
    cases cs with
    | nil =>
      have hc : ¬ ((c == 42 && (42 : UInt8) == 47) = true) := by simp
      simp only [cons_append, nil_append, GoComment.spanGeneral, if_neg hc] at ih' ⊢
      simp
    | cons d ds =>
      have hc : ¬ ((c == 42 && d == 47) = true) := by
        have := h.1
        simp only [Str.isPrefixOf, Bool.and_true] at this
        intro e
        simp only [Bool.and_eq_true, beq_iff_eq] at e
        rw [e.1, e.2] at this
        simp at this
      simp only [cons_append] at ih' ⊢
      simp only [GoComment.spanGeneral, if_neg hc, ih']
      rfl

theorem isPrefixOf_one_snoc (a c : UInt8) (h : (a == c) = false) (t : Str) :
    Str.isPrefixOf [a] (t ++ [c]) = Str.isPrefixOf [a] t := by
  cases t with
  | nil => simp [Str.isPrefixOf, h]
  | cons x xs => simp [Str.isPrefixOf]

theorem hasSub_snoc (t : Str) (c : UInt8) (h : (47 == c) = false) :
    Str.hasSub (t ++ [c]) b!"*/" = Str.hasSub t b!"*/" := by
  induction t with
  | nil => simp [Str.hasSub, Str.isPrefixOf]
  | cons d ds ih =>
    simp only [cons_append, Str.hasSub, ih]
    congr 1
    simp only [Str.isPrefixOf]
    rw [isPrefixOf_one_snoc 47 c h]

theorem hasSub_cons (c : UInt8) (t : Str) (h : (42 == c) = false) :
    Str.hasSub (c :: t) b!"*/" = Str.hasSub t b!"*/" := by
  cases t <;> simp [Str.hasSub, Str.isPrefixOf, h]

theorem renderComment_line {t : Str} (hd : InDomain t) (hn : t.elem 10 = false) :
    renderComment t = b!"// " ++ t := by
  obtain ⟨h1, h2, _⟩ := hd
  simp only [Bool.not_eq_true] at h1 h2
  have hm := (elem_false_iff t 10).1 hn
  simp [renderComment, h1, h2, hm]

theorem renderComment_block {t : Str} (hd : InDomain t) (hn : t.elem 10 = true) :
    renderComment t =
      b!"/*\n" ++ t ++ (if t.getLast? = some 10 then [] else [10]) ++ b!"*/" := by
  obtain ⟨h1, h2, _⟩ := hd
  simp only [Bool.not_eq_true] at h1 h2
  simp only [renderComment, h1, h2, hn, Bool.or_self, if_true, beq_iff_eq]
  rfl

/-- a one-line text becomes exactly one line comment, which ends where the line ends in what
    follows it -/
theorem line_comment_span {t : Str} (hd : InDomain t) (hn : t.elem 10 = false) (rest : Str) :
    GoComment.skipComment (renderComment t ++ rest) =
      some (b!"// " ++ t ++ (GoComment.spanLine rest).1, (GoComment.spanLine rest).2) := by
  rw [renderComment_line hd hn]
  have hn' : (32 :: t).elem 10 = false := by
    rw [elem_false_iff] at hn ⊢
    simp only [mem_cons, not_or]; exact ⟨by decide, hn⟩
  have := spanLine_append (32 :: t) rest hn'
  simp only [cons_append, nil_append, GoComment.skipComment] at this ⊢
  simp [this]

theorem line_comment_contained {t : Str} (hd : InDomain t) (hn : t.elem 10 = false) (rest : Str) :
    GoComment.skipComment (renderComment t ++ [10] ++ rest) = some (b!"// " ++ t, [10] ++ rest) := by
  rw [append_assoc, line_comment_span hd hn]; simp [GoComment.spanLine]

theorem line_comment_at_eof {t : Str} (hd : InDomain t) (hn : t.elem 10 = false) :
    GoComment.skipComment (renderComment t) = some (b!"// " ++ t, []) := by
  simpa [GoComment.spanLine] using line_comment_span hd hn []

/-- the inside of the block comment (`\n`, the text, the optional newline) contains no `*/` -/
theorem block_inside_no_terminator {t : Str} (hs : Str.hasSub t b!"*/" = false) :
    Str.hasSub (10 :: (t ++ (if t.getLast? = some 10 then [] else [10]))) b!"*/" = false := by
  rw [hasSub_cons 10 _ (by decide)]
  split
  · simpa using hs
  · rw [hasSub_snoc _ 10 (by decide)]; exact hs

/-- a multi-line text becomes exactly one general comment: the first `*/` after the opening
    `/*` is the one `renderComment` appends -/
theorem block_comment_contained {t : Str} (hd : InDomain t) (hn : t.elem 10 = true) (rest : Str) :
    GoComment.skipComment (renderComment t ++ rest) = some (renderComment t, rest) := by
  rw [renderComment_block hd hn]
  have := spanGeneral_append _ rest (block_inside_no_terminator hd.2.2)
  simp only [cons_append, nil_append, append_assoc, GoComment.skipComment] at this ⊢
  simp [this]

theorem block_comment_contained' {t : Str} (hd : InDomain t) (hn : t.elem 10 = true) :
    (∀ rest, GoComment.skipComment (renderComment t ++ rest) = some (renderComment t, rest)) ∧
    renderComment t =
      b!"/*\n" ++ t ++ (if t.getLast? = some 10 then [] else [10]) ++ b!"*/" :=
  ⟨block_comment_contained hd hn, renderComment_block hd hn⟩

/-- a text that is already a comment is passed through untouched -/
theorem raw_passthrough {t : Str}
    (h : Str.isPrefixOf b!"//" t = true ∨ Str.isPrefixOf b!"/*" t = true) :
    renderComment t = t := by
  unfold renderComment
  rcases h with h | h <;> simp [h]

example : InDomain b!"x := 1; }" := by decide
example : InDomain b!"a\nb*" := by decide
example : InDomain b!"/ * /*\n" := by decide
example : ¬ InDomain b!"a */ b" := by decide

example : GoComment.skipComment (renderComment b!"x := 1; }" ++ [10] ++ b!"y()")
    = some (b!"// x := 1; }", [10] ++ b!"y()") :=
  line_comment_contained (by decide) (by decide) _

example : GoComment.skipComment (renderComment b!"x := 1; }") = some (b!"// x := 1; }", []) :=
  line_comment_at_eof (by decide) (by decide)

example : GoComment.skipComment (renderComment b!"a\nb*" ++ b!"*/ evil()")
    = some (renderComment b!"a\nb*", b!"*/ evil()") :=
  block_comment_contained (by decide) (by decide) _

example : renderComment b!"a\nb*" = b!"/*\na\nb*\n*/" := by decide
example : GoComment.skipComment (b!"/*\na\nb*\n*/" ++ b!"rest") =
    some (b!"/*\na\nb*\n*/", b!"rest") := by
  decide
-- the specification side really stops at the FIRST `*/`
example : GoComment.skipComment b!"/* a */ b */" = some (b!"/* a */", b!" b */") := by decide
example : GoComment.skipComment b!"/*/ a" = none := by decide
example : GoComment.skipComment b!"// a\nb" = some (b!"// a", b!"\nb") := by decide
example : GoComment.skipComment b!"x // a" = none := by decide
example : renderComment b!"// raw" = b!"// raw" := raw_passthrough (Or.inl (by decide))

end CommentLemmas
