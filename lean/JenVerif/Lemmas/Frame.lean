import JenVerif.Lemmas.RenderSim
import JenVerif.Lemmas.RegistryGood
/-
  Frame and footprint of the stateful renderer.

  Frame: the renderer reads only `path`, `imports`, `hints`, `pfx` of the file state (an instance
  of `Code.renderS_sim`) and changes the state by `register` steps only (`RegFrom`, an instance of
  `Code.renderS_inv`), so it writes only `imports`.

  Footprint and refinement, one induction under `Good` (`renderS_sem`): the steps register exactly
  the non-local package paths the traversal visits (`visits`); the text is the pure rendering under
  any later naming; a render repeated from any later state changes nothing (`SemAll.rerender`).
  The pieces of a render (`Step`) compose by `Step.seq` and `Step.map`, because null-ness, which
  alone steers the traversal, does not change.
-/
namespace Frame
open Code Registry Refine

/-- `f`'s registry-relevant fields inside `g`'s other fields -/
def setRest (f g : FileS) : FileS :=
  { g with path := f.path, imports := f.imports, hints := f.hints, pfx := f.pfx }

theorem setRest_self (f : FileS) : setRest f f = f := rfl

theorem setRest_setRest (f g h : FileS) : setRest f (setRest g h) = setRest f h := rfl

@[simp] theorem setRest_path (f g : FileS) : (setRest f g).path = f.path := rfl
@[simp] theorem setRest_imports (f g : FileS) : (setRest f g).imports = f.imports := rfl
@[simp] theorem setRest_hints (f g : FileS) : (setRest f g).hints = f.hints := rfl
@[simp] theorem setRest_pfx (f g : FileS) : (setRest f g).pfx = f.pfx := rfl
@[simp] theorem setRest_name (f g : FileS) : (setRest f g).name = g.name := rfl
@[simp] theorem setRest_comments (f g : FileS) : (setRest f g).comments = g.comments := rfl
@[simp] theorem setRest_headers (f g : FileS) : (setRest f g).headers = g.headers := rfl
@[simp] theorem setRest_cgo (f g : FileS) : (setRest f g).cgo = g.cgo := rfl
@[simp] theorem setRest_noFormat (f g : FileS) : (setRest f g).noFormat = g.noFormat := rfl
@[simp] theorem setRest_canonical (f g : FileS) : (setRest f g).canonical = g.canonical := rfl

theorem lookupHint_setRest (f g : FileS) (p : Str) : lookupHint (setRest f g) p = lookupHint f p := rfl

theorem isDotImport_setRest (f g : FileS) (p : Str) : isDotImport (setRest f g) p = isDotImport f p := rfl

theorem isValidAlias_setRest (cfg : Cfg) (f g : FileS) (a : Str) :
    isValidAlias cfg (setRest f g) a = isValidAlias cfg f a := rfl

theorem prefixed_setRest (f g : FileS) (n : Str) (a : Bool) : prefixed (setRest f g) n a = prefixed f n a := rfl

theorem acceptable_setRest (cfg : Cfg) (f g : FileS) (n : Str) (a : Bool) (i : Nat) :
    acceptable cfg (setRest f g) n a i = acceptable cfg f n a i := rfl

theorem uniqFuel_setRest (cfg : Cfg) (f g : FileS) : uniqFuel cfg (setRest f g) = uniqFuel cfg f := rfl

theorem chooseBase_setRest (cfg : Cfg) (f g : FileS) (p : Str) :
    chooseBase cfg (setRest f g) p = chooseBase cfg f p := rfl

theorem setRest_regEq (f g : FileS) : RegEq (setRest f g) f := ⟨rfl, rfl, rfl, fun _ => rfl⟩

theorem setRest_sim (cfg : Cfg) (g : FileS) : Sim cfg fun f₁ f₂ => f₁ = setRest f₂ g :=
  .of_regEq (fun h => h ▸ setRest_regEq _ g) (fun _ h => h ▸ rfl)

/-- FRAME: the renderer reads only path/imports/hints/pfx and writes only imports -/
theorem renderS_frame (cfg : Cfg) (c : Code) (f g : FileS) (prev : Option Code) :
    (renderS cfg (setRest f g) prev c).1 = (renderS cfg f prev c).1 ∧
    (renderS cfg (setRest f g) prev c).2 = setRest (renderS cfg f prev c).2 g :=
  renderS_sim (setRest_sim cfg g) c prev rfl

theorem renderItemsS_frame (cfg : Cfg) (cs : List Code) (gi : GInfo) (first : Bool) (f g : FileS) :
    (renderItemsS cfg gi first (setRest f g) cs).1 = (renderItemsS cfg gi first f cs).1 ∧
    (renderItemsS cfg gi first (setRest f g) cs).2.1 = (renderItemsS cfg gi first f cs).2.1 ∧
    (renderItemsS cfg gi first (setRest f g) cs).2.2 = setRest (renderItemsS cfg gi first f cs).2.2 g :=
  renderItemsS_sim (setRest_sim cfg g) cs gi first rfl

theorem renderStmtS_frame (cfg : Cfg) (cs : List Code) (first : Bool) (prev : Option Code) (f g : FileS) :
    (renderStmtS cfg first prev (setRest f g) cs).1 = (renderStmtS cfg first prev f cs).1 ∧
    (renderStmtS cfg first prev (setRest f g) cs).2 = setRest (renderStmtS cfg first prev f cs).2 g :=
  renderStmtS_sim (setRest_sim cfg g) cs first prev rfl

theorem renderDict_frame (cfg : Cfg) (ps : List (Code × Code)) (f g : FileS) :
    (renderDictWith FileS.np (setRest f g) (dictEntriesS cfg ps)).1 =
        (renderDictWith FileS.np f (dictEntriesS cfg ps)).1 ∧
    (renderDictWith FileS.np (setRest f g) (dictEntriesS cfg ps)).2 =
        setRest (renderDictWith FileS.np f (dictEntriesS cfg ps)).2 g :=
  renderDictWith_sim (setRest_sim cfg g).np _ (dictEntriesS_sim (setRest_sim cfg g) ps) rfl

inductive RegFrom (cfg : Cfg) (S : Str → Bool) : FileS → FileS → Prop
  | refl (f : FileS) : RegFrom cfg S f f
  | step {f f' : FileS} {p : Str} : RegFrom cfg S f f' → S p = true →
      RegFrom cfg S f (register cfg f' p).2

theorem RegFrom.trans {cfg : Cfg} {S : Str → Bool} {f f1 f2 : FileS}
    (h1 : RegFrom cfg S f f1) (h2 : RegFrom cfg S f1 f2) : RegFrom cfg S f f2 := by
  induction h2 with
  | refl => exact h1
  | step _ hp ih => exact .step ih hp

theorem RegFrom.mono {cfg : Cfg} {S S' : Str → Bool} {f f' : FileS}
    (h : RegFrom cfg S f f') (hs : ∀ p, S p = true → S' p = true) : RegFrom cfg S' f f' := by
  induction h with
  | refl => exact .refl _
  | step _ hp ih => exact .step ih (hs _ hp)

theorem RegFrom.single {cfg : Cfg} {S : Str → Bool} (f : FileS) {p : Str} (hp : S p = true) :
    RegFrom cfg S f (register cfg f p).2 := .step (.refl f) hp

theorem regFrom_snd {cfg : Cfg} {S : Str → Bool} {f f' : FileS} (h : RegFrom cfg S f f') :
    f' = { f with imports := f'.imports } := by
  induction h with
  | refl => rfl
  | @step f' p _ _ ih =>
    exact (RegistryInv.register_writes cfg f' p).trans
      (congrArg (fun g : FileS => { g with imports := (register cfg f' p).2.imports }) ih)

theorem regFrom_fixed {cfg : Cfg} {S : Str → Bool} {f f' : FileS} (h : RegFrom cfg S f f') :
    (∀ p, S p = true → isLocal f p = true ∨ isReg f p = true) → f' = f := by
  induction h with
  | refl => intro _; rfl
  | @step f' p0 hr hS ih =>
    intro hall
    obtain rfl := ih hall
    rcases hall p0 hS with h | h
    · rw [RegistryInv.register_local h]
    · rw [RegistryInv.register_idem h]

/-- `register` adds at most the key `p`, and nothing for the local path: NOTHING ELSE is imported -/
theorem regFrom_imports_subset {cfg : Cfg} {S : Str → Bool} {f f' : FileS} (h : RegFrom cfg S f f') :
    ∀ p, p ∈ f'.imports.map (·.1) → p ∈ f.imports.map (·.1) ∨ (S p = true ∧ isLocal f p = false) := by
  induction h with
  | refl => intro p hp; exact Or.inl hp
  | @step f' p0 hr hS ih =>
    intro q hq
    rcases RegistryInv.register_cases cfg f' p0 with ⟨_, e⟩ | ⟨_, _, e⟩ | ⟨hl, _, e⟩ <;> rw [e] at hq
    · exact ih q hq
    · exact ih q hq
    · obtain ⟨x, hx, rfl⟩ := List.mem_map.mp hq
      rcases AList.mem_insert hx with rfl | e1
      · exact .inr ⟨hS, by rw [regFrom_snd hr] at hl; exact hl⟩
      · exact ih _ (List.mem_map.mpr ⟨x, e1, rfl⟩)

abbrev Reach (cfg : Cfg) : FileS → FileS → Prop := RegFrom cfg (fun _ => true)

theorem reach_step (cfg : Cfg) (f₀ f : FileS) (p : Str) (h : Reach cfg f₀ f) :
    Reach cfg f₀ (register cfg f p).2 := .step h rfl

/-- the ONLY way the renderer changes the state is by `register` steps -/
theorem renderS_reach (cfg : Cfg) (c : Code) (f : FileS) (prev : Option Code) :
    Reach cfg f (renderS cfg f prev c).2 := renderS_inv (reach_step cfg f) c prev (.refl f)

theorem renderItemsS_reach (cfg : Cfg) : ∀ (cs : List Code) (gi : GInfo) (first : Bool) (f : FileS),
    Reach cfg f (renderItemsS cfg gi first f cs).2.2 :=
  fun cs gi first f => renderItemsS_inv (reach_step cfg f) cs gi first (.refl f)

theorem renderStmtS_reach (cfg : Cfg) : ∀ (cs : List Code) (first : Bool) (prev : Option Code) (f : FileS),
    Reach cfg f (renderStmtS cfg first prev f cs).2 :=
  fun cs first prev f => renderStmtS_inv (reach_step cfg f) cs first prev (.refl f)

def EReach (cfg : Cfg) (e : DEntry FileS) : Prop :=
  ∀ f, Reach cfg f (e.kR f).2 ∧ Reach cfg f (e.vR f).2

theorem dictEntriesS_reach (cfg : Cfg) : ∀ (ps : List (Code × Code)), ∀ e ∈ dictEntriesS cfg ps, EReach cfg e :=
  fun ps e he f => dictEntriesS_inv (reach_step cfg f) ps e he (.refl f)

theorem renderS_writes (cfg : Cfg) (f : FileS) (prev : Option Code) (c : Code) :
    (renderS cfg f prev c).2 = { f with imports := (renderS cfg f prev c).2.imports } :=
  regFrom_snd (renderS_reach cfg c f prev)

theorem other_fields_untouched (cfg : Cfg) (f : FileS) (prev : Option Code) (c : Code) :
    let f' := (renderS cfg f prev c).2
    f'.name = f.name ∧ f'.path = f.path ∧ f'.hints = f.hints ∧ f'.comments = f.comments ∧
    f'.headers = f.headers ∧ f'.cgo = f.cgo ∧ f'.noFormat = f.noFormat ∧ f'.pfx = f.pfx ∧
    f'.canonical = f.canonical := by
  intro f'
  rw [show f' = _ from renderS_writes cfg f prev c]
  exact ⟨rfl, rfl, rfl, rfl, rfl, rfl, rfl, rfl, rfl⟩

theorem renderS_noFormat (cfg : Cfg) (f : FileS) (prev : Option Code) (c : Code) (b : Bool) :
    renderS cfg { f with noFormat := b } prev c =
      ((renderS cfg f prev c).1, { (renderS cfg f prev c).2 with noFormat := b }) := by
  -- `setRest f { f with noFormat := b }` is `{ f with noFormat := b }`
  have h := renderS_frame cfg c f { f with noFormat := b } prev
  exact Prod.ext h.1 (h.2.trans (by rw [renderS_writes cfg f prev c]; rfl))

theorem fileHead_noFormat (isPrint : Nat → Bool) (f : FileS) (b : Bool) :
    fileHead isPrint { f with noFormat := b } = fileHead isPrint f := rfl

theorem renderImports_noFormat (isPrint : Nat → Bool) (f : FileS) (b : Bool) :
    renderImports isPrint { f with noFormat := b } = renderImports isPrint f := rfl

theorem noFormat_irrelevant (cfg : Cfg) (f : FileS) (body : List Code) (b : Bool) :
    (renderFileRaw cfg { f with noFormat := b } body).1 = (renderFileRaw cfg f body).1 ∧
    (renderFileRaw cfg { f with noFormat := b } body).2 =
      { (renderFileRaw cfg f body).2 with noFormat := b } := by
  simp only [renderFileRaw, renderS_noFormat, fileHead_noFormat, renderImports_noFormat, and_self]

/-- a DIRECT package-token item: `renderItems` registers it before testing null-ness -/
def directPkg : Code → Str → Bool
  | .tok .pkg s, p => s == p
  | _, _ => false

mutual
/-- does rendering `c` call `register` on `p` (null-ness `np` is stable during a render) -/
def visits (np : Str → Bool) : Code → Str → Bool
  | .tok .pkg s, p => s == p
  | .group g items, p =>
    if g.name == b!"types" && allNull np items then false else visitsItems np items p
  | .stmt items, p => visitsStmt np items p
  | .dict ps, p => visitsPairs np ps p
  | _, _ => false
/-- `renderItems`: a direct package token is registered even when null; null items are skipped -/
def visitsItems (np : Str → Bool) : List Code → Str → Bool
  | [], _ => false
  | c :: cs, p => directPkg c p || (!isNull np c && visits np c p) || visitsItems np cs p

def visitsStmt (np : Str → Bool) : List Code → Str → Bool
  | [], _ => false
  | c :: cs, p => (!isNull np c && visits np c p) || visitsStmt np cs p

def visitsPairs (np : Str → Bool) : List (Code × Code) → Str → Bool
  | [], _ => false
  | (k, v) :: ps, p =>
    (!(isNull np k || isNull np v) && (visits np k p || visits np v p)) || visitsPairs np ps p
end

theorem visits_congr (np np' : Str → Bool) (h : ∀ p, np' p = np p) (c : Code) :
    visits np' c = visits np c := by rw [funext h]

theorem visits_ext {f f' : FileS} (h : Ext f f') (c : Code) : visits f'.np c = visits f.np c :=
  visits_congr _ _ h.np c

def por (a b : Str → Bool) : Str → Bool := fun p => a p || b p

/-! the equations of `visits` with the null test decided, as equations between path sets -/

theorem visits_group_types {np : Str → Bool} {g : GInfo} {items : List Code}
    (h : (g.name == b!"types" && allNull np items) = true) (p : Str) : visits np (.group g items) p = false := by
  simp only [visits, h, if_true]

theorem visits_group {np : Str → Bool} {g : GInfo} {items : List Code}
    (h : (g.name == b!"types" && allNull np items) = false) : visits np (.group g items) = visitsItems np items := by
  funext p; simp only [visits, h, Bool.false_eq_true, if_false]

theorem visitsItems_null {np : Str → Bool} {c : Code} (h : isNull np c = true) (cs : List Code) :
    visitsItems np (c :: cs) = por (directPkg c) (visitsItems np cs) := by
  funext p; simp [visitsItems, h, por]

theorem visitsItems_kept {np : Str → Bool} {c : Code} (h : isNull np c = false) (cs : List Code) :
    visitsItems np (c :: cs) = por (por (directPkg c) (visits np c)) (visitsItems np cs) := by
  funext p; simp [visitsItems, h, por]

theorem visitsStmt_null {np : Str → Bool} {c : Code} (h : isNull np c = true) (cs : List Code) :
    visitsStmt np (c :: cs) = visitsStmt np cs := by
  funext p; simp [visitsStmt, h]

theorem visitsStmt_kept {np : Str → Bool} {c : Code} (h : isNull np c = false) (cs : List Code) :
    visitsStmt np (c :: cs) = por (visits np c) (visitsStmt np cs) := by
  funext p; simp [visitsStmt, h, por]

theorem visitsPairs_null {np : Str → Bool} {k v : Code} (h : (isNull np k || isNull np v) = true)
    (ps : List (Code × Code)) : visitsPairs np ((k, v) :: ps) = visitsPairs np ps := by
  funext p; simp [visitsPairs, h]

theorem visitsPairs_kept {np : Str → Bool} {k v : Code} (hk : isNull np k = false) (hv : isNull np v = false)
    (ps : List (Code × Code)) :
    visitsPairs np ((k, v) :: ps) = por (por (visits np k) (visits np v)) (visitsPairs np ps) := by
  funext p; simp [visitsPairs, hk, hv, por]

/-- footprint: `f'` extends `f`, is reached by registering only paths of `hi`, and every non-local
    path of `lo` is registered in `f'` -/
structure Tr (cfg : Cfg) (lo hi : Str → Bool) (f f' : FileS) : Prop where
  ext : Ext f f'
  reg : RegFrom cfg hi f f'
  got : ∀ p, lo p = true → isLocal f p = false → isReg f' p = true

theorem Tr.refl (cfg : Cfg) {lo hi : Str → Bool} (f : FileS) (h : ∀ p, lo p = false) : Tr cfg lo hi f f :=
  ⟨Ext.refl f, .refl f, fun p hp => by rw [h p] at hp; cases hp⟩

theorem Tr.seq {cfg : Cfg} {lo1 hi1 lo2 hi2 : Str → Bool} {f f1 f2 : FileS}
    (h1 : Tr cfg lo1 hi1 f f1) (h2 : Tr cfg lo2 hi2 f1 f2) : Tr cfg (por lo1 lo2) (por hi1 hi2) f f2 := by
  refine ⟨h1.ext.trans h2.ext, (h1.reg.mono ?_).trans (h2.reg.mono ?_), ?_⟩
  · intro p hp; simp [por, hp]
  · intro p hp; simp [por, hp]
  · intro p hp hl
    simp only [por, Bool.or_eq_true] at hp
    rcases hp with h | h
    · exact isReg_keep h2.ext (h1.got p h hl)
    · exact h2.got p h ((isLocal_static h1.ext.static p).trans hl)

theorem Tr.register {cfg : Cfg} {f : FileS} (hg : Good cfg f) (s : Str) :
    Tr cfg (fun p => s == p) (fun p => s == p) f (register cfg f s).2 := by
  refine ⟨register_ext cfg f hg s, RegFrom.single f (beq_self_eq_true s), fun p hp hl => ?_⟩
  cases eq_of_beq hp
  exact (hg f (SameStatic.refl f) s hl).1

/-- a piece of a render leading from `f` to `f'` with result `a`: its footprint is `S`, `f'` is again
    good with null-ness `np`, and `a` is what `v` computes under any later naming -/
structure Step (cfg : Cfg) (np S : Str → Bool) (f f' : FileS) {α : Type} (a : α) (v : Env → α) : Prop where
  tr : Tr cfg S S f f'
  good : Good cfg f'
  np : f'.np = np
  val : ∀ f3, Ext f' f3 → a = v (envOf f3)

theorem Step.of_tr {cfg : Cfg} {np S : Str → Bool} {f f' : FileS} (t : Tr cfg S S f f') (hg : Good cfg f)
    (hnp : f.np = np) {α : Type} {a : α} {v : Env → α} (h : ∀ f3, Ext f' f3 → a = v (envOf f3)) :
    Step cfg np S f f' a v :=
  ⟨t, good_of_ext hg t.ext, np_of_ext t.ext hnp, h⟩

theorem Step.pure {cfg : Cfg} {np S : Str → Bool} {f : FileS} (hg : Good cfg f) (hnp : f.np = np)
    (h : ∀ p, S p = false) {α : Type} (a : α) : Step cfg np S f f a fun _ => a :=
  ⟨Tr.refl cfg f h, hg, hnp, fun _ _ => rfl⟩

/-- one after the other: the later naming serves both -/
theorem Step.seq {cfg : Cfg} {np S₁ S₂ : Str → Bool} {f f₁ f₂ : FileS} {α β : Type} {a : α} {b : β}
    {v : Env → α} {w : Env → β} (s₁ : Step cfg np S₁ f f₁ a v) (s₂ : Step cfg np S₂ f₁ f₂ b w) :
    Step cfg np (por S₁ S₂) f f₂ (a, b) fun e => (v e, w e) :=
  ⟨s₁.tr.seq s₂.tr, s₂.good, s₂.np, fun f3 h3 => by rw [s₁.val f3 (s₂.tr.ext.trans h3), s₂.val f3 h3]⟩

/-- the result may be processed further by whatever the pure side does too under null-ness `np` -/
theorem Step.map {cfg : Cfg} {np S : Str → Bool} {f f' : FileS} {α β : Type} {a : α} {v : Env → α}
    (s : Step cfg np S f f' a v) (g : α → β) {w : Env → β} (h : ∀ e : Env, e.np = np → w e = g (v e)) :
    Step cfg np S f f' (g a) w :=
  ⟨s.tr, s.good, s.np, fun f3 h3 => by rw [h _ (np_of_ext h3 s.np), s.val f3 h3]⟩

theorem preReg_step {cfg : Cfg} {np : Str → Bool} {f : FileS} (hg : Good cfg f) (hnp : f.np = np) (c : Code) :
    Step cfg np (directPkg c) f (preReg cfg f c) () fun _ => () := by
  cases c with
  | tok k s =>
    cases k
    case pkg => exact .of_tr (Tr.register hg s) hg hnp fun _ _ => rfl
    all_goals exact .pure hg hnp (fun _ => rfl) ()
  | _ => exact .pure hg hnp (fun _ => rfl) ()

theorem pkgNonNull_ext {f f' : FileS} (h : Ext f f') {c : Code} (hn : PkgNonNull f c) : PkgNonNull f' c := by
  cases c with
  | tok k s =>
    cases k
    case pkg => exact (h.np s).trans hn
    all_goals trivial
  | _ => trivial

def Sem (cfg : Cfg) (np : Str → Bool) (f : FileS) (prev : Option Code) (c : Code) : Prop :=
  Tr cfg (visits np c) (visits np c) f (renderS cfg f prev c).2 ∧
  (PkgNonNull f c → ∀ f3, Ext (renderS cfg f prev c).2 f3 →
    (renderS cfg f prev c).1 = renderP cfg (envOf f3) prev c)

def SemAll (cfg : Cfg) (c : Code) : Prop :=
  ∀ (f : FileS) (prev : Option Code) (np : Str → Bool), Good cfg f → f.np = np → Sem cfg np f prev c

theorem Step.sem {cfg : Cfg} {np : Str → Bool} {f : FileS} {prev : Option Code} {c : Code}
    (s : Step cfg np (visits np c) f (renderS cfg f prev c).2 (renderS cfg f prev c).1 fun e => renderP cfg e prev c) :
    Sem cfg np f prev c := ⟨s.tr, fun _ => s.val⟩

/-- the text half of `Sem` asks for `PkgNonNull`, which a code that is not null has -/
theorem Sem.step {cfg : Cfg} {np : Str → Bool} {f : FileS} {prev : Option Code} {c : Code} (s : Sem cfg np f prev c)
    (hg : Good cfg f) (hnp : f.np = np) (hn : isNull np c = false) :
    Step cfg np (visits np c) f (renderS cfg f prev c).2 (renderS cfg f prev c).1 fun e => renderP cfg e prev c :=
  .of_tr s.1 hg hnp (s.2 (pkgNonNull_of_nonNull hnp hn))

/-- rendered again from ANY later state: the state stays, the text is the same -/
theorem SemAll.rerender {cfg : Cfg} {c : Code} (h : SemAll cfg c) {f f' : FileS} {prev : Option Code}
    (hg : Good cfg f) (he : Ext (renderS cfg f prev c).2 f') :
    (∀ prev', (renderS cfg f' prev' c).2 = f') ∧
    (PkgNonNull f c → (renderS cfg f' prev c).1 = (renderS cfg f prev c).1) := by
  have s := h f prev f.np hg rfl
  have e0 : Ext f f' := s.1.ext.trans he
  have s' := fun pv => h f' pv f.np (good_of_ext hg e0) (np_of_ext e0 rfl)
  -- the second render registers only visited paths, and the first one has registered them all
  have fix : ∀ pv, (renderS cfg f' pv c).2 = f' := fun pv => by
    refine regFrom_fixed (s' pv).1.reg fun p hp => ?_
    cases hl : isLocal f' p with
    | true => exact .inl rfl
    | false => exact .inr (isReg_keep he (s.1.got p hp ((isLocal_static e0.static p).symm.trans hl)))
  refine ⟨fix, fun hn => ?_⟩
  -- both texts are the pure rendering under the naming of `f'`
  rw [(s' prev).2 (pkgNonNull_ext e0 hn) f' (by rw [fix]; exact Ext.refl _), s.2 hn f' he]

/-- the second loop only re-prints triples whose closures are at a fixed point -/
theorem dictLoop2_fixed (n : Nat) : ∀ (ts : List (Str × Str × DEntry FileS)) (first : Bool) (f : FileS),
    (∀ t ∈ ts, t.2.2.kR f = (t.1, f) ∧ t.2.2.vR f = (t.2.1, f)) →
    dictLoop2 n first f ts = (dictBodyP n first (ts.map fun t => (t.1, t.2.1)), f)
  | [], _, _, _ => rfl
  | t :: ts, first, f, h => by
    have ht := h t (.head _)
    rw [dictLoop2_cons, ht.1, ht.2, dictLoop2_fixed n ts false f fun t' ht' => h t' (.tail _ ht')]
    rfl

/-- the first loop is a `Step`, and in every later state the closures of the triples it returns are
    at a fixed point and give the recorded texts (`SemAll.rerender`) -/
theorem dictLoop1_sem {cfg : Cfg} {np : Str → Bool} : ∀ (ps : List (Code × Code)) (f : FileS),
    (∀ kv ∈ ps, SemAll cfg kv.1 ∧ SemAll cfg kv.2) → Good cfg f → f.np = np →
    Step cfg np (visitsPairs np ps) f (dictLoop1 FileS.np f (dictEntriesS cfg ps)).2
      ((dictLoop1 FileS.np f (dictEntriesS cfg ps)).1.map fun t => (t.1, t.2.1)) (fun e => dictPairsP cfg e ps) ∧
    ∀ t ∈ (dictLoop1 FileS.np f (dictEntriesS cfg ps)).1, ∀ f',
      Ext (dictLoop1 FileS.np f (dictEntriesS cfg ps)).2 f' → t.2.2.kR f' = (t.1, f') ∧ t.2.2.vR f' = (t.2.1, f')
  | [], _, _, hg, hnp => ⟨.pure hg hnp (fun _ => rfl) _, fun _ ht => (by cases ht)⟩
  | (k, v) :: ps, f, hps, hg, hnp => by
    have hrest := fun kv hkv => hps kv (.tail _ hkv)
    obtain ⟨sk, sv⟩ := hps (k, v) (.head _)
    rw [dictEntriesS, dictLoop1_cons, hnp]
    dsimp only
    cases hn : (isNull np k || isNull np v)
    · rw [Bool.or_eq_false_iff] at hn
      have tk := (sk f none np hg hnp).step hg hnp hn.1
      have tv := (sv _ none np tk.good tk.np).step tk.good tk.np hn.2
      have ih := dictLoop1_sem ps _ hrest tv.good tv.np
      simp only [Bool.false_eq_true, if_false]
      rw [visitsPairs_kept hn.1 hn.2]
      refine ⟨?_, fun t ht f' h' => ?_⟩
      · exact ((tk.seq tv).seq ih.1).map (fun r => r.1 :: r.2) fun e he => by
          rw [dictPairsP, dictTextsP, he, hn.1, hn.2]; rfl
      · rcases List.mem_cons.1 ht with rfl | ht
        · -- `f'` is later than the state after the key and than the state after the value
          have rk := sk.rerender hg (tv.tr.ext.trans (ih.1.tr.ext.trans h'))
          have rv := sv.rerender tk.good (ih.1.tr.ext.trans h')
          exact ⟨Prod.ext (rk.2 (pkgNonNull_of_nonNull hnp hn.1)) (rk.1 none),
            Prod.ext (rv.2 (pkgNonNull_of_nonNull tk.np hn.2)) (rv.1 none)⟩
        · exact ih.2 t ht f' h'
    · have ih := dictLoop1_sem ps f hrest hg hnp
      simp only [if_true]
      rw [visitsPairs_null hn]
      exact ⟨ih.1.map id fun e he => by rw [dictPairsP, dictTextsP, he, hn]; rfl, ih.2⟩

theorem renderDict_sem {cfg : Cfg} {np : Str → Bool} (ps : List (Code × Code)) (f : FileS)
    (hps : ∀ kv ∈ ps, SemAll cfg kv.1 ∧ SemAll cfg kv.2) (hg : Good cfg f) (hnp : f.np = np) :
    Step cfg np (visitsPairs np ps) f (renderDictWith FileS.np f (dictEntriesS cfg ps)).2
      (renderDictWith FileS.np f (dictEntriesS cfg ps)).1 fun e =>
        dictBodyP ((dictPairsP cfg e ps).mergeSort dictLe).length true ((dictPairsP cfg e ps).mergeSort dictLe) := by
  have l1 := dictLoop1_sem ps f hps hg hnp
  rw [renderDictWith_eq, dictLoop2_fixed _ _ true _ fun t ht => l1.2 t (List.mem_mergeSort.1 ht) _ (Ext.refl _)]
  have hm : ((dictLoop1 FileS.np f (dictEntriesS cfg ps)).1.mergeSort dictKeyLe).map (fun t => (t.1, t.2.1)) =
      ((dictLoop1 FileS.np f (dictEntriesS cfg ps)).1.map (fun t => (t.1, t.2.1))).mergeSort dictLe :=
    List.map_mergeSort (fun a _ b _ => rfl)
  rw [hm, List.length_mergeSort, ← List.length_map (fun t : Str × Str × DEntry FileS => (t.1, t.2.1))]
  exact l1.1.map (fun l => dictBodyP l.length true (l.mergeSort dictLe)) fun _ _ => by rw [List.length_mergeSort]

mutual
theorem renderS_sem (cfg : Cfg) : ∀ c, SemAll cfg c
  | .tok k s, f, prev, np, hg, _ => by
    cases k
    case pkg =>
      refine ⟨Tr.register hg s, fun hn f3 h3 => ?_⟩
      have hl : isLocal f s = false := by
        simp only [PkgNonNull, FileS.np, Bool.or_eq_false_iff] at hn
        exact hn.2
      have hr := hg f (SameStatic.refl f) s hl
      exact hr.2.1.trans (congrArg Def.name (Ext.keep h3 s hr.1).symm)
    all_goals exact ⟨Tr.refl cfg f fun _ => rfl, fun _ _ _ => rfl⟩
  | .nilc, f, _, _, _, _ | .lit _, f, _, _, _, _ | .tag _, f, _, _, _, _ | .comment _, f, _, _, _, _ =>
    ⟨Tr.refl cfg f fun _ => rfl, fun _ _ _ => rfl⟩
  | .group gi items, f, prev, np, hg, hnp => by
    refine Step.sem ?_
    cases ht : (gi.name == b!"types" && allNull np items)
    · simp only [renderS, hnp, ht, Bool.false_eq_true, if_false]
      rw [visits_group ht]
      exact (renderItemsS_sem cfg items gi true f np hg hnp).map
        (fun r => (effDelims gi prev).1 ++ r.1 ++ closeSep gi (effDelims gi prev).2 r.2 ++ (effDelims gi prev).2)
        fun e he => by simp only [renderP, he, ht, Bool.false_eq_true, if_false]
    · simp only [renderS, hnp, ht, if_true]
      exact (Step.pure hg hnp (visits_group_types ht) ([] : Str)).map id
        fun e he => by simp only [renderP, he, ht, if_true]; rfl
  | .stmt items, f, _, np, hg, hnp => (renderStmtS_sem cfg items true none f np hg hnp).sem
  | .dict ps, f, _, np, hg, hnp => (renderDict_sem ps f (pairs_sem cfg ps) hg hnp).sem

theorem renderItemsS_sem (cfg : Cfg) : ∀ (cs : List Code) (gi : GInfo) (first : Bool) (f : FileS) (np : Str → Bool),
    Good cfg f → f.np = np →
    Step cfg np (visitsItems np cs) f (renderItemsS cfg gi first f cs).2.2
      ((renderItemsS cfg gi first f cs).1, (renderItemsS cfg gi first f cs).2.1) fun e => renderItemsP cfg e gi first cs
  | [], _, _, _, _, hg, hnp => .pure hg hnp (fun _ => rfl) _
  | c :: cs, gi, first, f, np, hg, hnp => by
    have s0 := preReg_step hg hnp c
    rw [renderItemsS_cons, s0.np]
    cases hn : isNull np c
    · have s1 := (renderS_sem cfg c _ none np s0.good s0.np).step s0.good s0.np hn
      have ih := renderItemsS_sem cfg cs gi false _ np s1.good s1.np
      simp only [Bool.false_eq_true, if_false]
      rw [visitsItems_kept hn]
      exact ((s0.seq s1).seq ih).map (fun r => (itemLead gi first ++ r.1.2 ++ r.2.1, r.2.2)) fun e he => by
        rw [renderItemsP, he, hn]; rfl
    · simp only [if_true]
      rw [visitsItems_null hn]
      exact (s0.seq (renderItemsS_sem cfg cs gi first _ np s0.good s0.np)).map (·.2) fun e he => by
        rw [renderItemsP, he, hn]; rfl

theorem renderStmtS_sem (cfg : Cfg) :
    ∀ (cs : List Code) (first : Bool) (prev : Option Code) (f : FileS) (np : Str → Bool),
    Good cfg f → f.np = np →
    Step cfg np (visitsStmt np cs) f (renderStmtS cfg first prev f cs).2 (renderStmtS cfg first prev f cs).1
      fun e => renderStmtP cfg e first prev cs
  | [], _, _, _, _, hg, hnp => .pure hg hnp (fun _ => rfl) _
  | c :: cs, first, prev, f, np, hg, hnp => by
    rw [renderStmtS, hnp]
    cases hn : isNull np c
    · have s1 := (renderS_sem cfg c f prev np hg hnp).step hg hnp hn
      have ih := renderStmtS_sem cfg cs false (some c) _ np s1.good s1.np
      simp only [Bool.false_eq_true, if_false]
      rw [visitsStmt_kept hn]
      exact (s1.seq ih).map (fun r => (if first then [] else b!" ") ++ r.1 ++ r.2) fun e he => by
        rw [renderStmtP, he, hn]; rfl
    · simp only [if_true]
      rw [visitsStmt_null hn]
      exact (renderStmtS_sem cfg cs first (some c) f np hg hnp).map id fun e he => by rw [renderStmtP, he, hn]; rfl

theorem pairs_sem (cfg : Cfg) : ∀ (ps : List (Code × Code)), ∀ kv ∈ ps, SemAll cfg kv.1 ∧ SemAll cfg kv.2
  | [], _, h => by cases h
  | (k, v) :: ps, kv, h => by
    rcases List.mem_cons.1 h with rfl | h
    · exact ⟨renderS_sem cfg k, renderS_sem cfg v⟩
    · exact pairs_sem cfg ps kv h
end

/-- FOOTPRINT: rendering `c` registers only visited paths, and registers every visited non-local one -/
theorem renderS_tr (cfg : Cfg) (c : Code) (f : FileS) (prev : Option Code) (np : Str → Bool)
    (hg : Good cfg f) (hnp : f.np = np) : Tr cfg (visits np c) (visits np c) f (renderS cfg f prev c).2 :=
  (renderS_sem cfg c f prev np hg hnp).1

theorem renderS_ext (cfg : Cfg) (f : FileS) (prev : Option Code) (c : Code) (hg : Good cfg f) :
    Ext f (renderS cfg f prev c).2 := (renderS_tr cfg c f prev f.np hg rfl).ext

theorem renderS_regFrom (cfg : Cfg) (f : FileS) (prev : Option Code) (c : Code) (hg : Good cfg f) :
    RegFrom cfg (visits f.np c) f (renderS cfg f prev c).2 := (renderS_tr cfg c f prev f.np hg rfl).reg

theorem renderItemsS_regFrom (cfg : Cfg) (f : FileS) (gi : GInfo) (first : Bool) (cs : List Code)
    (hg : Good cfg f) :
    RegFrom cfg (visitsItems f.np cs) f (renderItemsS cfg gi first f cs).2.2 :=
  (renderItemsS_sem cfg cs gi first f f.np hg rfl).tr.reg

theorem renderStmtS_regFrom (cfg : Cfg) (f : FileS) (first : Bool) (prev : Option Code) (cs : List Code)
    (hg : Good cfg f) :
    RegFrom cfg (visitsStmt f.np cs) f (renderStmtS cfg first prev f cs).2 :=
  (renderStmtS_sem cfg cs first prev f f.np hg rfl).tr.reg

structure EntryTr (cfg : Cfg) (np : Str → Bool) (e : DEntry FileS) (k v : Code) : Prop where
  kNull : e.kNull np = isNull np k
  vNull : e.vNull np = isNull np v
  kTr : ∀ f, Good cfg f → f.np = np → Tr cfg (visits np k) (visits np k) f (e.kR f).2
  vTr : ∀ f, Good cfg f → f.np = np → Tr cfg (visits np v) (visits np v) f (e.vR f).2

inductive EntriesTr (cfg : Cfg) (np : Str → Bool) : List (DEntry FileS) → List (Code × Code) → Prop
  | nil : EntriesTr cfg np [] []
  | cons {e es k v ps} : EntryTr cfg np e k v → EntriesTr cfg np es ps →
      EntriesTr cfg np (e :: es) ((k, v) :: ps)

theorem dictEntries_tr (cfg : Cfg) : ∀ (ps : List (Code × Code)) (np : Str → Bool),
    EntriesTr cfg np (dictEntriesS cfg ps) ps
  | [], _ => .nil
  | (k, v) :: ps, np =>
    .cons
      ⟨rfl, rfl, fun f hg hnp => renderS_tr cfg k f none np hg hnp,
        fun f hg hnp => renderS_tr cfg v f none np hg hnp⟩
      (dictEntries_tr cfg ps np)

theorem render_imports_subset (cfg : Cfg) (f : FileS) (prev : Option Code) (c : Code) (hg : Good cfg f) :
    ∀ p, p ∈ (renderS cfg f prev c).2.imports.map (·.1) →
      p ∈ f.imports.map (·.1) ∨ (visits f.np c p = true ∧ isLocal f p = false) :=
  regFrom_imports_subset (renderS_regFrom cfg f prev c hg)

theorem visited_registered (cfg : Cfg) (f : FileS) (prev : Option Code) (c : Code) (p : Str)
    (hg : Good cfg f) (hv : visits f.np c p = true) (hl : isLocal f p = false) :
    isReg (renderS cfg f prev c).2 p = true := (renderS_tr cfg c f prev f.np hg rfl).got p hv hl

theorem isReg_mem_imports {f : FileS} {p : Str} (h : isReg f p = true) : p ∈ f.imports.map (·.1) := by
  have hne : (lookupImp f p).name ≠ [] := ((RegistryInv.isReg_iff f p).mp h).1
  exact List.mem_map.mpr ⟨_, RegistryInv.lookupImp_mem hne, rfl⟩

/-- exact footprint on the NEW import keys -/
theorem new_imports_iff (cfg : Cfg) (f : FileS) (prev : Option Code) (c : Code) (p : Str)
    (hg : Good cfg f) (hnew : p ∉ f.imports.map (·.1)) :
    p ∈ (renderS cfg f prev c).2.imports.map (·.1) ↔ (visits f.np c p = true ∧ isLocal f p = false) := by
  constructor
  · intro h
    rcases render_imports_subset cfg f prev c hg p h with h' | h'
    · exact absurd h' hnew
    · exact h'
  · intro ⟨hv, hl⟩
    exact isReg_mem_imports (visited_registered cfg f prev c p hg hv hl)

/-- whole file: the import table after `File.Render` has the keys it had before plus visited
    non-local paths only, and every visited non-local path is registered under a real name -/
theorem file_imports_exact (cfg : Cfg) (f : FileS) (body : List Code) (hg : Good cfg f) (p : Str) :
    (p ∈ (renderFileRaw cfg f body).2.imports.map (·.1) →
      p ∈ f.imports.map (·.1) ∨ (visitsItems f.np body p = true ∧ isLocal f p = false)) ∧
    (visitsItems f.np body p = true → isLocal f p = false → isReg (renderFileRaw cfg f body).2 p = true) := by
  rw [← show visits f.np (.group fileInfo body) = visitsItems f.np body from visits_group rfl]
  simp only [renderFileRaw]
  exact ⟨render_imports_subset cfg f none _ hg p, visited_registered cfg f none _ p hg⟩

theorem rerender_state_fixed (cfg : Cfg) (f : FileS) (prev prev' : Option Code) (c : Code) (hg : Good cfg f) :
    (renderS cfg (renderS cfg f prev c).2 prev' c).2 = (renderS cfg f prev c).2 :=
  ((renderS_sem cfg c).rerender hg (Ext.refl _)).1 prev'

/-- the text needs no `PkgNonNull`: a null package token renders the same name (or nothing, for the
    local path) both times -/
theorem rerender_text_same (cfg : Cfg) (f : FileS) (prev : Option Code) (c : Code) (hg : Good cfg f) :
    (renderS cfg (renderS cfg f prev c).2 prev c).1 = (renderS cfg f prev c).1 := by
  have h := ((renderS_sem cfg c).rerender (prev := prev) hg (Ext.refl _)).2
  cases c with
  | tok k s =>
    cases k
    case pkg =>
      simp only [renderS]
      cases hl : isLocal f s with
      | true => rw [RegistryInv.register_local hl, RegistryInv.register_local hl]
      | false =>
        obtain ⟨h1, h2, _⟩ := hg f (SameStatic.refl f) s hl
        have hl1 : isLocal (register cfg f s).2 s = false :=
          (isLocal_static (register_static cfg f s) s).trans hl
        rw [RegistryInv.register_reg hl1 h1, h2]
    all_goals exact h trivial
  | _ => exact h trivial

theorem rerender_fixed_point' (cfg : Cfg) (f : FileS) (prev : Option Code) (c : Code) (hg : Good cfg f) :
    renderS cfg (renderS cfg f prev c).2 prev c = renderS cfg f prev c :=
  Prod.ext (rerender_text_same cfg f prev c hg) (rerender_state_fixed cfg f prev prev c hg)

theorem renderFileRaw_idempotent (cfg : Cfg) (f : FileS) (body : List Code) (hg : Good cfg f) :
    let r1 := renderFileRaw cfg f body
    renderFileRaw cfg r1.2 body = r1 := by
  simp only [renderFileRaw]
  rw [rerender_fixed_point' cfg f none (.group fileInfo body) hg]

theorem hints_do_not_import (f : FileS) (p n : Str) (m : List (Str × Str)) :
    (importName f p n).imports = f.imports ∧ (importAlias f p n).imports = f.imports ∧
    (importNames f m).imports = f.imports :=
  ⟨rfl, rfl, (RegistryInv.importNames_imports m f).1⟩

/-- a null item that is not a direct package token contributes nothing at all to a group:
    no text, no separator, no registration -/
theorem null_item_contributes_nothing (cfg : Cfg) (gi : GInfo) (first : Bool) (f : FileS) (c : Code)
    (cs : List Code) (hn : isNull f.np c = true) (hd : ∀ s, c ≠ .tok .pkg s) :
    renderItemsS cfg gi first f (c :: cs) = renderItemsS cfg gi first f cs := by
  rw [renderItemsS_cons, preReg_not_pkg cfg f c hd, hn]
  simp only [if_true]

/-- a null DIRECT package token contributes its registration and nothing else -/
theorem null_pkg_item (cfg : Cfg) (gi : GInfo) (first : Bool) (f : FileS) (s : Str) (cs : List Code)
    (hn : (register cfg f s).2.np s = true) :
    renderItemsS cfg gi first f (.tok .pkg s :: cs) = renderItemsS cfg gi first (register cfg f s).2 cs := by
  rw [renderItemsS_cons]
  simp only [preReg, isNull, hn, if_true]

/-- for the local path even that registration is the identity -/
theorem local_pkg_item (cfg : Cfg) (gi : GInfo) (first : Bool) (f : FileS) (s : Str) (cs : List Code)
    (hl : isLocal f s = true) :
    renderItemsS cfg gi first f (.tok .pkg s :: cs) = renderItemsS cfg gi first f cs := by
  have e : (register cfg f s).2 = f := by rw [RegistryInv.register_local hl]
  rw [null_pkg_item cfg gi first f s cs (by rw [e]; simp [FileS.np, hl]), e]

/-- a null item of a statement contributes no text and no registration; it is only remembered as
    the raw previous item (`prev`, used for the Case/default block rule D5) -/
theorem null_stmt_item (cfg : Cfg) (first : Bool) (prev : Option Code) (f : FileS) (c : Code)
    (cs : List Code) (hn : isNull f.np c = true) :
    renderStmtS cfg first prev f (c :: cs) = renderStmtS cfg first (some c) f cs := by
  rw [renderStmtS, hn]
  simp only [if_true]

/-- and a null item is not visited through `visitsItems`/`visitsStmt` beyond its direct token -/
theorem null_item_visits (np : Str → Bool) (c : Code) (cs : List Code) (p : Str) (hn : isNull np c = true) :
    visitsItems np (c :: cs) p = (directPkg c p || visitsItems np cs p) ∧
    visitsStmt np (c :: cs) p = visitsStmt np cs p :=
  ⟨congrFun (visitsItems_null hn cs) p, congrFun (visitsStmt_null hn cs) p⟩

section Examples
open RegistryInv RegistryGood

def exBody : List Code :=
  [.stmt [Code.qual b!"fmt" b!"Println", .group ⟨b!"call", b!"(", b!")", b!",", false⟩
      [Code.qual b!"x.com/a" b!"V", Code.qual b!"main" b!"W", Code.qual b!"y.org/b" b!"Z"]]]

def exBody2 : List Code :=
  exBody ++ [.dict [(.lit (.int 1), Code.qual b!"z.org/c" b!"Z"), (Code.null, Code.qual b!"skipped" b!"Z")]]

example : Good cfg0 f0 := good_of_hintsOk hintsOk_f0 stdOk_cfg0

/-- the local path `main` is visited but not imported -/
example : (renderFileRaw cfg0 f0 exBody).2.imports.map (·.1) = [b!"fmt", b!"x.com/a", b!"y.org/b"] := by
  decide +kernel

example : renderFileRaw cfg0 (renderFileRaw cfg0 f0 exBody2).2 exBody2 = renderFileRaw cfg0 f0 exBody2 :=
  renderFileRaw_idempotent cfg0 f0 exBody2 (good_of_hintsOk hintsOk_f0 stdOk_cfg0)

example : visits f0.np (.group fileInfo exBody2) b!"z.org/c" = true ∧
    visits f0.np (.group fileInfo exBody2) b!"skipped" = false ∧
    visits f0.np (.group fileInfo exBody2) b!"main" = true ∧ isLocal f0 b!"main" = true := by decide +kernel

end Examples

end Frame

#print axioms Frame.renderS_frame
#print axioms Frame.renderItemsS_frame
#print axioms Frame.renderStmtS_frame
#print axioms Frame.renderDict_frame
#print axioms Frame.renderS_reach
#print axioms Frame.other_fields_untouched
#print axioms Frame.noFormat_irrelevant
#print axioms Frame.renderS_tr
#print axioms Frame.renderS_regFrom
#print axioms Frame.regFrom_imports_subset
#print axioms Frame.render_imports_subset
#print axioms Frame.visited_registered
#print axioms Frame.new_imports_iff
#print axioms Frame.regFrom_fixed
#print axioms Frame.rerender_state_fixed
#print axioms Frame.rerender_fixed_point'
#print axioms Frame.renderFileRaw_idempotent
#print axioms Frame.file_imports_exact
#print axioms Frame.hints_do_not_import
#print axioms Frame.null_item_contributes_nothing
#print axioms Frame.null_pkg_item
#print axioms Frame.local_pkg_item
#print axioms Frame.null_stmt_item
#print axioms Frame.visits_congr
