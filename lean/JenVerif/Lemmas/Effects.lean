import JenVerif.FileRender
/-
  The effect programs in normal form.  Every entry point (`fileRender`, `fragRender`, `fileSave`,
  `…GoString`) is `fileRenderFrom`/`fileSaveFrom` at some `(noFormat, misuse, raw)`, and these are
  one three-way distinction: misuse; else on THE TEXT TO BE WRITTEN,
  `if noFormat then some raw else w.gofmt raw`: none (the formatter refused) or `some out`, handed
  to the writer.  Save is Render with `w.fs` for the writer and `fsWrite` for `callerWrite`.
-/
namespace Effects

theorem fileRenderFrom_eq (w : World) (noFormat mis : Bool) (raw : Str) :
    fileRenderFrom w noFormat mis raw =
      if mis then (.errMisuse, []) else
      match (if noFormat then some raw else w.gofmt raw) with
      | none => (.errFormat raw, [.format raw])
      | some out => (if w.writer out then .ok else .errWriter,
          (if noFormat then [] else [.format raw]) ++ [.callerWrite out]) := by
  cases mis <;> cases noFormat <;> rfl

theorem fileSaveFrom_eq (w : World) (noFormat mis : Bool) (raw : Str) :
    fileSaveFrom w noFormat mis raw =
      if mis then (.errMisuse, []) else
      match (if noFormat then some raw else w.gofmt raw) with
      | none => (.errFormat raw, [.format raw])
      | some out => (if w.fs out then .ok else .errFs,
          (if noFormat then [] else [.format raw]) ++ [.fsWrite out]) := by
  cases mis
  · cases noFormat
    · unfold fileSaveFrom fileRenderFrom emit
      cases w.gofmt raw <;> rfl
    · rfl
  · rfl

theorem callerWrite_mem_iff (w : World) (noFormat mis : Bool) (raw b : Str) :
    Effect.callerWrite b ∈ (fileRenderFrom w noFormat mis raw).2 ↔
      mis = false ∧ (if noFormat then some raw else w.gofmt raw) = some b := by
  rw [fileRenderFrom_eq]
  cases mis
  · cases (if noFormat then some raw else w.gofmt raw) with
    | none => simp
    | some out => simp; exact eq_comm
  · simp

theorem ok_trace {w : World} {noFormat mis : Bool} {raw : Str}
    (h : (fileRenderFrom w noFormat mis raw).1 = .ok) :
    mis = false ∧ ∃ out, (if noFormat then some raw else w.gofmt raw) = some out ∧
      w.writer out = true ∧
      (fileRenderFrom w noFormat mis raw).2 =
        (if noFormat then [] else [.format raw]) ++ [.callerWrite out] := by
  rw [fileRenderFrom_eq] at h ⊢
  revert h
  cases mis
  · cases (if noFormat then some raw else w.gofmt raw) with
    | none => exact fun h => nomatch h
    | some o =>
      dsimp only
      cases hw : w.writer o
      · exact fun h => nomatch h
      · exact fun _ => ⟨rfl, o, rfl, hw, rfl⟩
  · exact fun h => nomatch h

/-- `GoString` (a render into a buffer, which accepts everything) against a render of the same
    source with the caller's writer: same bytes, same state, and success unless the writer refuses -/
theorem goStringFrom_buffered (w : World) (noFormat mis : Bool) (raw : Str) (s : FileS) :
    let r := fileRenderFrom w noFormat mis raw
    let b := fileRenderFrom (World.buffered w.gofmt) noFormat mis raw
    let g := goStringFrom (b.1, b.2, s)
    g.2.1 = Effect.written r.2 ∧ g.2.2 = s ∧ (r.1 = .ok → g.1 = .ok) ∧
      (g.1 = .ok → r.1 = .ok ∨ r.1 = .errWriter) := by
  simp only [fileRenderFrom_eq, World.buffered]
  cases mis
  · cases (if noFormat then some raw else w.gofmt raw) with
    | none => exact ⟨rfl, rfl, fun h => h, fun h => nomatch h⟩
    | some out => exact ⟨rfl, rfl, fun _ => rfl, fun _ => by cases w.writer out <;> simp⟩
  · exact ⟨rfl, rfl, fun h => h, fun h => nomatch h⟩

end Effects
