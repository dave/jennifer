import JenVerif.GenNames
import JenVerif.Lemmas.AList
/-
  C18, gennames clause: every entry of the produced table comes from a line of `go list` that
  passes the filters, under the un-vendored path.  (That the first such line wins is how
  `getPackages` is written; no theorem says it.)
-/
namespace GenNamesLemmas
open GenNames

/-- one iteration of the loop: the line is skipped, or it passes the filters and adds its entry -/
theorem getPackages_cons {accepts : Str → Bool} {standard novendor : Bool} {l : Line} {ls : List Line}
    {acc : List (Str × Str)} {P : List (Str × Str) → Prop}
    (skip : P (getPackages accepts standard novendor ls acc))
    (add : passesFilters accepts standard novendor l = true →
      P (getPackages accepts standard novendor ls (AList.insert acc (unvendorPath l.path) l.name))) :
    P (getPackages accepts standard novendor (l :: ls) acc) := by
  rw [getPackages]
  by_cases h1 : (l.standard != standard) = true
  · rwa [if_pos h1]
  by_cases h2 : (novendor && hasVendor l.path) = true
  · rwa [if_neg h1, if_pos h2]
  by_cases h3 : (l.name == b!"main") = true
  · rwa [if_neg h1, if_neg h2, if_pos h3]
  by_cases h4 : (!accepts l.path) = true
  · rwa [if_neg h1, if_neg h2, if_neg h3, if_pos h4]
  rw [if_neg h1, if_neg h2, if_neg h3, if_neg h4]
  dsimp only
  by_cases h5 : ((AList.lookup acc (unvendorPath l.path)).getD [] != []) = true
  · rwa [if_pos h5]
  rw [if_neg h5]
  simp only [Bool.not_eq_true, bne_eq_false_iff_eq, Bool.not_eq_false'] at h1 h2 h3 h4
  exact add (by rw [passesFilters, h1, h2, h4, bne, h3, beq_self_eq_true]; rfl)

theorem getPackages_sound (accepts : Str → Bool) (standard novendor : Bool) :
    ∀ (ls : List Line) (acc : List (Str × Str)) (p n : Str),
      (p, n) ∈ getPackages accepts standard novendor ls acc →
      (p, n) ∈ acc ∨ ∃ l ∈ ls, passesFilters accepts standard novendor l = true ∧
        unvendorPath l.path = p ∧ l.name = n
  | [], acc, p, n, h => Or.inl h
  | l :: ls, acc, p, n, h => by
    -- what the rest of the loop adds to any accumulator comes from a line of `ls`
    have tail : ∀ acc', (p, n) ∈ getPackages accepts standard novendor ls acc' → (p, n) ∈ acc' ∨
        ∃ l' ∈ l :: ls, passesFilters accepts standard novendor l' = true ∧
          unvendorPath l'.path = p ∧ l'.name = n :=
      fun acc' h => (getPackages_sound accepts standard novendor ls acc' p n h).imp_right
        fun ⟨l', hm, h'⟩ => ⟨l', List.mem_cons_of_mem l hm, h'⟩
    refine getPackages_cons (P := fun r => (p, n) ∈ r → _) (tail acc) (fun hl h => ?_) h
    rcases tail _ h with h' | h'
    · rcases AList.mem_insert h' with e | e
      · cases e; exact .inr ⟨l, List.mem_cons_self, hl, rfl, rfl⟩
      · exact .inl e
    · exact .inr h'

theorem gennames_lines (accepts : Str → Bool) (standard novendor : Bool) (ls : List Line) (p n : Str)
    (h : (p, n) ∈ getPackages accepts standard novendor ls []) :
    ∃ l ∈ ls, l.standard = standard ∧ l.name ≠ b!"main" ∧ accepts l.path = true ∧
      unvendorPath l.path = p ∧ l.name = n := by
  rcases getPackages_sound accepts standard novendor ls [] p n h with h' | ⟨l, hm, ha, hp, hn⟩
  · cases h'
  · simp only [passesFilters, Bool.and_eq_true, beq_iff_eq, bne_iff_ne, ne_eq] at ha
    exact ⟨l, hm, ha.1.1.1, ha.1.2, ha.2, hp, hn⟩

example : unvendorPath b!"vendor/golang.org/x/net/idna" = b!"golang.org/x/net/idna" := by decide
example : unvendorPath b!"a/vendor/b/vendor/c" = b!"c" := by decide
example : unvendorPath b!"net/http" = b!"net/http" := by decide

end GenNamesLemmas
