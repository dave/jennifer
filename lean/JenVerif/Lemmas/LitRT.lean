import JenVerif.Lit
import JenVerif.Spec.GoNum
import JenVerif.Lemmas.Digits
import JenVerif.Lemmas.AList
/-
  Numeric literal rendering (`Lit.render`) against the Go-spec readers of `Spec/GoNum`: integers
  read back to their value (`Digits.read_aux`), the type names are distinct, an imaginary part gets
  a sign; for float64, the fix-up as a function on strings, the text of well-formed `%g` parts
  (`text_cases`), whose shape `parseG` decides, and the canonical form of a value (`normalize`) by
  its own recursion.  The fix-up on parts is in `Lemmas/LitFix`.
-/
namespace LitRT
open GoNum

open Digits (decDigit decDigit_toNat)

theorem isDigit_decDigit {d : Nat} (h : d < 10) : isDigit (decDigit d) = true := by
  unfold isDigit
  rw [Bool.and_eq_true, decide_eq_true_eq, decide_eq_true_eq, UInt8.le_iff_toNat_le,
    UInt8.le_iff_toNat_le, decDigit_toNat h]
  exact ⟨Nat.le_add_right 48 d, Nat.add_le_add_left (Nat.le_of_lt_succ h) 48⟩

theorem digitVal_decDigit {d : Nat} (h : d < 10) : digitVal (decDigit d) = d := by
  unfold digitVal; rw [decDigit_toNat h]; omega

theorem decDigit_eq_zero {d : Nat} (h : d < 10) (h0 : UInt8.ofNat (48 + d) = 48) : d = 0 := by
  have := decDigit_toNat h
  rw [decDigit, h0] at this
  simp at this; omega

theorem hexVal_hexDigit : ∀ d, d < 16 → hexVal (Str.hexDigit d) = some d := by decide

theorem decFold_natDec (n : Nat) : decFold 0 (Str.natDec n) = some n :=
  Digits.read_aux Digits.prints_dec decFold (by decide)
    (fun a d cs h => by rw [decFold, if_pos (isDigit_decDigit h), digitVal_decDigit h])
    _ _ _ (Nat.lt_succ_self n)

theorem hexFold_natHex (n : Nat) : hexFold 0 (Str.natHex n) = some n :=
  Digits.read_aux Digits.prints_hex hexFold (by decide)
    (fun a d cs h => by rw [hexFold, hexVal_hexDigit d h])
    _ _ _ (Nat.lt_succ_self n)

theorem natDec_roundtrip (n : Nat) : GoNum.readDec (Str.natDec n) = some n := by
  obtain ⟨d, rest, hd, hlt, hz⟩ := Digits.natDec_head n
  have hv := decFold_natDec n
  rw [hd] at hv ⊢
  rw [readDec, hv]
  by_cases hc : decDigit d = 48
  · simp [(hz (decDigit_eq_zero hlt hc)).2]
  · simp [hc]

theorem int_roundtrip (v : Int) : GoNum.readSignedDec (Str.intDec v) = some v := by
  cases v with
  | ofNat n =>
    show readSignedDec (Str.natDec n) = _
    unfold readSignedDec
    split
    · next r heq =>
      -- the digits do not start with `-`: `decFold` reads them
      have hv := decFold_natDec n
      rw [heq] at hv; cases hv
    · rw [natDec_roundtrip]; rfl
  | negSucc n =>
    show readSignedDec (45 :: Str.natDec (n + 1)) = _
    rw [readSignedDec, natDec_roundtrip]; rfl

theorem hex_roundtrip (n : Nat) : GoNum.readHex (b!"0x" ++ Str.natHex n) = some n := by
  obtain ⟨d, rest, hd, -⟩ := Digits.aux_head Digits.prints_hex (by decide) _ n []
    (Nat.lt_succ_self n)
  have hv := hexFold_natHex n
  rw [Str.natHex, hd] at hv ⊢
  exact hv

theorem sized_value (ty : NumTy) (v : Int) :
    (ty.signed = true → GoNum.readSignedDec (Lit.fmtInt ty.signed v) = some v) ∧
    (ty.signed = false → 0 ≤ v → GoNum.readHex (Lit.fmtInt ty.signed v) = some v.toNat) := by
  constructor
  · intro h; rw [h]; exact int_roundtrip v
  · intro h _; rw [h]; exact hex_roundtrip v.toNat

example : ∃ v : Int, 0 ≤ v ∧ GoNum.readHex (Lit.fmtInt false v) = some 255 := ⟨255, by decide, by decide⟩

def allNumTy : List NumTy :=
  [.int8, .int16, .int32, .int64, .uint, .uint8, .uint16, .uint32, .uint64, .uintptr]

theorem allNumTy_complete : ∀ ty : NumTy, ty ∈ allNumTy := by
  intro ty; cases ty <;> decide

theorem typeNames_nodup : (allNumTy.map NumTy.name).Nodup := by decide

theorem typeName_injective : ∀ a b : NumTy, a.name = b.name → a = b := fun a b =>
  AList.eq_of_key_eq typeNames_nodup (allNumTy_complete a) (allNumTy_complete b)

/-- the signedness recorded in the model agrees with the Go type name (`u` prefix) -/
theorem signed_iff_name : ∀ ty : NumTy, ty.signed = (ty.name.head? != some 117) := by
  intro ty; cases ty <;> decide

theorem byte_roundtrip : ∀ (isPrint : Nat → Bool) (b : UInt8), ∃ digits,
    Lit.render isPrint (.byte b) = b!"byte(0x" ++ digits ++ b!")" ∧
    GoNum.readHex (b!"0x" ++ digits) = some b.toNat :=
  fun _ b => ⟨Str.natHex b.toNat, rfl, hex_roundtrip b.toNat⟩

/- C11, complex literals: the imaginary part always carries a sign (`forceSign_head`) and is
   otherwise the text it was (`forceSign_cases`). -/

theorem forceSign_head (im : Str) :
    ∃ r, Lit.forceSign im = 43 :: r ∨ Lit.forceSign im = 45 :: r := by
  unfold Lit.forceSign
  split
  · exact ⟨_, Or.inr rfl⟩
  · exact ⟨_, Or.inl rfl⟩
  · exact ⟨_, Or.inl rfl⟩

theorem forceSign_cases (im : Str) :
    ((im.head? = some 43 ∨ im.head? = some 45) ∧ Lit.forceSign im = im) ∨
    (im.head? ≠ some 43 ∧ im.head? ≠ some 45 ∧ Lit.forceSign im = 43 :: im) := by
  unfold Lit.forceSign
  split
  · exact Or.inl ⟨Or.inr rfl, rfl⟩
  · exact Or.inl ⟨Or.inl rfl, rfl⟩
  · next h1 h2 =>
    exact Or.inr ⟨fun h => (List.head?_eq_some_iff.1 h).elim h2,
      fun h => (List.head?_eq_some_iff.1 h).elim h1, rfl⟩

theorem floatFix_of_mem (t : Str) (h : 46 ∈ t ∨ 101 ∈ t) : Lit.floatFix t = t := by
  unfold Lit.floatFix
  rcases h with h | h <;> simp [h]

theorem floatFix_of_not_mem (t : Str) (h1 : 46 ∉ t) (h2 : 101 ∉ t) :
    Lit.floatFix t = t ++ b!".0" := by
  unfold Lit.floatFix
  simp [h1, h2]

theorem floatFix_has_mark (s : Str) : 46 ∈ Lit.floatFix s ∨ 101 ∈ Lit.floatFix s := by
  by_cases hm : 46 ∈ s ∨ 101 ∈ s
  · rw [floatFix_of_mem s hm]; exact hm
  · rw [floatFix_of_not_mem s (fun h => hm (Or.inl h)) (fun h => hm (Or.inr h))]
    exact Or.inl (List.mem_append_right s (List.mem_cons_self ..))

theorem floatFix_idempotent (t : Str) : Lit.floatFix (Lit.floatFix t) = Lit.floatFix t :=
  floatFix_of_mem _ (floatFix_has_mark t)

theorem floatFix_minus (t : Str) : Lit.floatFix (45 :: t) = 45 :: Lit.floatFix t := by
  unfold Lit.floatFix
  rw [show (45 :: t).elem 46 = t.elem 46 from rfl, show (45 :: t).elem 101 = t.elem 101 from rfl]
  split <;> rfl

/-- below `k` is `-`, `+`, `.` or `e`, and `hk` is `rfl` -/
theorem digit_ne {c k : UInt8} (h : isDigit c = true) (hk : isDigit k = false) : c ≠ k :=
  fun e => by rw [e, hk] at h; cases h

theorem not_mem_of_digits {s : Str} (h : s.all isDigit = true) : 46 ∉ s ∧ 101 ∉ s := by
  rw [List.all_eq_true] at h
  exact ⟨fun hm => digit_ne (h _ hm) rfl rfl, fun hm => digit_ne (h _ hm) rfl rfl⟩

/-- `h`: `rest` is empty or starts with a non-digit; for a given first character that is `rfl` -/
theorem span_digits {ip rest : Str} (hip : ip.all isDigit = true)
    (h : rest.takeWhile isDigit = []) :
    (ip ++ rest).takeWhile isDigit = ip ∧ (ip ++ rest).dropWhile isDigit = rest := by
  rw [List.all_eq_true] at hip
  have hd := List.takeWhile_append_dropWhile (p := isDigit) (l := rest)
  rw [h] at hd
  rw [List.takeWhile_append_of_pos hip, List.dropWhile_append_of_pos hip, h, List.append_nil]
  exact ⟨rfl, hd⟩

theorem stops_expText (ex : Option (Bool × Str)) :
    (GParts.expText ex).takeWhile isDigit = [] := by
  cases ex <;> rfl

theorem stops_tail (fp : Option Str) (ex : Option (Bool × Str)) :
    (GParts.fracText fp ++ GParts.expText ex).takeWhile isDigit = [] := by
  cases fp with
  | none => exact stops_expText ex
  | some f => rfl

theorem wf_parts {p : GParts} (h : p.wf = true) :
    p.ip.isEmpty = false ∧ p.ip.all isDigit = true ∧ GParts.fracWf p.fp = true ∧
      GParts.expWf p.ex = true := by
  simp only [GParts.wf, Bool.and_eq_true, Bool.not_eq_true'] at h
  exact ⟨h.1.1.1, h.1.1.2, h.1.2, h.2⟩

theorem text_cases {p : GParts} (h : p.wf = true) :
    (p.neg = true ∧ p.text = 45 :: p.body) ∨
    (p.neg = false ∧ p.text = p.body ∧ ∃ c r, p.body = c :: r ∧ isDigit c = true) := by
  obtain ⟨hne, hdig, -, -⟩ := wf_parts h
  unfold GParts.text GParts.signText GParts.body
  cases p.neg with
  | true => exact Or.inl ⟨rfl, rfl⟩
  | false =>
    refine Or.inr ⟨rfl, rfl, ?_⟩
    cases hip : p.ip with
    | nil => rw [hip] at hne; cases hne
    | cons c r =>
      rw [hip, List.all_cons, Bool.and_eq_true] at hdig
      exact ⟨c, _, rfl, hdig.1⟩

/-- a function that takes a leading `-` off its argument (`stripMinus`, `parseG`, `floatValue`
    are of this form) finds, on the text of well-formed parts, their sign and their body -/
theorem sign_match {α : Type} (f : Bool → Str → α) {p : GParts} (h : p.wf = true) :
    (match p.text with | 45 :: r => f true r | _ => f false p.text) = f p.neg p.body := by
  rcases text_cases h with ⟨hn, ht⟩ | ⟨hn, ht, c, r, hb, hc⟩
  · rw [hn, ht]; rfl
  · rw [hn, ht, hb]
    split
    · next heq => exact absurd (List.cons.inj heq).1 (digit_ne hc rfl)
    · rfl

theorem stripMinus_text {p : GParts} (h : p.wf = true) : stripMinus p.text = p.body :=
  sign_match (fun _ r => r) h

/-- for `%g` texts `forceSign` is exactly "prepend `+` unless negative" -/
theorem forceSign_gshape {p : GParts} (h : p.wf = true) :
    Lit.forceSign p.text = if p.neg then p.text else 43 :: p.text := by
  rcases text_cases h with ⟨hn, ht⟩ | ⟨hn, ht, c, r, hb, hc⟩
  · rw [hn, ht]; rfl
  · rw [hn, ht, hb]
    unfold Lit.forceSign
    split
    · next heq => exact absurd (List.cons.inj heq).1 (digit_ne hc rfl)
    · next heq => exact absurd (List.cons.inj heq).1 (digit_ne hc rfl)
    · rfl

/-! `parseG` is sound and complete for `GShape`; the `Decidable` instance evaluates it -/

theorem parseExp_expText (ex : Option (Bool × Str)) : parseExp (GParts.expText ex) = some ex := by
  cases ex with
  | none => rfl
  | some nd => obtain ⟨n, d⟩ := nd; cases n <;> rfl

theorem expText_of_parseExp {r : Str} {ex} (h : parseExp r = some ex) : GParts.expText ex = r := by
  unfold parseExp at h
  split at h <;> simp at h <;> subst h <;> rfl

theorem parseFrac_text (r : Str) :
    GParts.fracText (parseFrac r).1 ++ (parseFrac r).2 = r := by
  unfold parseFrac
  split
  · simp [GParts.fracText]
  · rfl

theorem parseFrac_tail (fp : Option Str) (ex : Option (Bool × Str))
    (hfp : GParts.fracWf fp = true) :
    parseFrac (GParts.fracText fp ++ GParts.expText ex) = (fp, GParts.expText ex) := by
  cases fp with
  | some f =>
    simp only [GParts.fracWf, Bool.and_eq_true] at hfp
    obtain ⟨h3, h4⟩ := span_digits hfp.2 (stops_expText ex)
    simp only [GParts.fracText, List.cons_append, parseFrac, h3, h4]
  | none => cases ex <;> rfl

theorem parseBody_body {p : GParts} (h : p.wf = true) : parseBody p.neg p.body = some p := by
  obtain ⟨-, hdig, hfp, -⟩ := wf_parts h
  obtain ⟨h1, h2⟩ := span_digits hdig (stops_tail p.fp p.ex)
  simp only [parseBody, GParts.body, h1, h2, parseFrac_tail p.fp p.ex hfp, parseExp_expText]
  exact if_pos h

theorem parseBody_sound {neg : Bool} {s : Str} {p : GParts} (h : parseBody neg s = some p) :
    p.wf = true ∧ p.text = GParts.signText neg ++ s := by
  simp only [parseBody] at h
  split at h
  · cases h
  · next ex hex =>
    split at h
    · next hwf =>
      cases h
      refine ⟨hwf, ?_⟩
      simp only [GParts.text, GParts.body]
      rw [expText_of_parseExp hex, parseFrac_text, List.takeWhile_append_dropWhile]
    · cases h

theorem parseG_text {p : GParts} (h : p.wf = true) : parseG p.text = some p :=
  (sign_match parseBody h).trans (parseBody_body h)

theorem parseG_sound {t : Str} {p : GParts} (h : parseG t = some p) :
    p.wf = true ∧ p.text = t := by
  unfold parseG at h
  split at h <;> exact parseBody_sound h

theorem isGShape_iff (t : Str) : isGShape t = true ↔ GShape t := by
  unfold isGShape
  rw [Option.isSome_iff_exists]
  exact ⟨fun ⟨p, hp⟩ => ⟨p, parseG_sound hp⟩, fun ⟨p, hwf, ht⟩ => ⟨p, ht ▸ parseG_text hwf⟩⟩

instance (t : Str) : Decidable (GShape t) := decidable_of_iff _ (isGShape_iff t)

example : GShape b!"100" := by decide
example : GShape b!"1e+06" := by decide
example : GShape b!"1e-07" := by decide
example : GShape b!"-0" := by decide
example : GShape b!"-1.7976931348623157e+308" := by decide
example : GShape b!"5e-324" := by decide
example : ¬ GShape b!"NaN" := by decide
example : ¬ GShape b!"+Inf" := by decide
example : ¬ GShape b!"1e+6" := by decide

theorem div_ten {m : Nat} (hm : 0 < m) (h : m % 10 = 0) : 0 < m / 10 ∧ m / 10 < m :=
  ⟨Nat.div_pos (Nat.le_of_dvd hm (Nat.dvd_of_mod_eq_zero h)) (by decide),
    Nat.div_lt_self hm (by decide)⟩

theorem normAux_fuel {m : Nat} (hm : 0 < m) {f1 f2 : Nat} (e : Int) (h1 : m ≤ f1) (h2 : m ≤ f2) :
    normAux f1 m e = normAux f2 m e := by
  induction m using Nat.strongRecOn generalizing f1 f2 e with
  | _ m ih =>
    obtain ⟨a, rfl⟩ := Nat.exists_eq_succ_of_ne_zero (Nat.ne_of_gt (Nat.lt_of_lt_of_le hm h1))
    obtain ⟨b, rfl⟩ := Nat.exists_eq_succ_of_ne_zero (Nat.ne_of_gt (Nat.lt_of_lt_of_le hm h2))
    rw [normAux, normAux]
    split
    · next hmod =>
      obtain ⟨hpos, hlt⟩ := div_ten hm hmod
      exact ih (m / 10) hlt hpos (e + 1) (Nat.le_of_lt_succ (Nat.lt_of_lt_of_le hlt h1))
        (Nat.le_of_lt_succ (Nat.lt_of_lt_of_le hlt h2))
    · rfl

/-- `normalize` by its own recursion: the fuel of `normAux` is out of sight from here on -/
theorem normalize_of_mod {m : Nat} (hm : m ≠ 0) (h : m % 10 = 0) (e : Int) :
    normalize m e = normalize (m / 10) (e + 1) := by
  obtain ⟨hpos, hlt⟩ := div_ten (Nat.pos_of_ne_zero hm) h
  obtain ⟨k, rfl⟩ := Nat.exists_eq_succ_of_ne_zero hm
  rw [normalize, if_neg hm, normAux, if_pos h, normalize, if_neg (Nat.ne_of_gt hpos)]
  exact normAux_fuel hpos _ (Nat.le_of_lt_succ hlt) (Nat.le_refl _)

theorem normalize_of_mod_ne {m : Nat} (h : m % 10 ≠ 0) (e : Int) : normalize m e = (m, e) := by
  obtain ⟨k, rfl⟩ := Nat.exists_eq_succ_of_ne_zero (show m ≠ 0 by intro h0; rw [h0] at h; exact h rfl)
  rw [normalize, if_neg (Nat.succ_ne_zero k), normAux, if_neg h]

theorem normalize_mul_ten (m : Nat) (e : Int) : normalize (m * 10) e = normalize m (e + 1) := by
  by_cases hm : m = 0
  · rw [hm]; rfl
  · rw [normalize_of_mod (Nat.mul_ne_zero hm (by decide)) (Nat.mul_mod_left m 10),
      Nat.mul_div_cancel m (by decide)]

theorem normalize_sound (m : Nat) (e : Int) (hm : m ≠ 0) :
    ∃ k : Nat, (normalize m e).2 = e + k ∧ m = (normalize m e).1 * 10 ^ k ∧
      (normalize m e).1 % 10 ≠ 0 := by
  induction m using Nat.strongRecOn generalizing e with
  | _ m ih =>
    by_cases hmod : m % 10 = 0
    · rw [normalize_of_mod hm hmod]
      obtain ⟨hpos, hlt⟩ := div_ten (Nat.pos_of_ne_zero hm) hmod
      obtain ⟨k, h1, h2, h3⟩ := ih (m / 10) hlt (e + 1) (Nat.ne_of_gt hpos)
      refine ⟨k + 1, by rw [h1, Int.natCast_succ, Int.add_assoc, Int.add_comm 1], ?_, h3⟩
      rw [Nat.pow_succ, ← Nat.mul_assoc, ← h2, Nat.div_mul_cancel (Nat.dvd_of_mod_eq_zero hmod)]
    · rw [normalize_of_mod_ne hmod]
      exact ⟨0, (Int.add_zero e).symm, (Nat.mul_one m).symm, hmod⟩

example : Lit.floatFix b!"100" = b!"100.0" := by decide
example : Lit.floatFix b!"1e+06" = b!"1e+06" := by decide
example : Lit.floatFix b!"1e-07" = b!"1e-07" := by decide
example : Lit.floatFix b!"-0" = b!"-0.0" := by decide
example : Lit.floatFix b!"2.5" = b!"2.5" := by decide

example : isFloatLit b!"100.0" = true ∧ isFloatLit b!"100" = false := by decide
example : isFloatLit b!"1e+06" = true ∧ isFloatLit b!"1e-07" = true := by decide
example : isFloatLit (stripMinus b!"-0.0") = true := by decide
example : isIntLit b!"100" = true ∧ isIntLit b!"100.0" = false ∧ isIntLit b!"1e+06" = false := by
  decide

example : floatValue b!"100" = some ⟨false, 1, 2⟩ ∧ floatValue b!"100.0" = some ⟨false, 1, 2⟩ := by
  decide
example : floatValue b!"1e+06" = some ⟨false, 1, 6⟩ ∧ floatValue b!"1000000.0" = some ⟨false, 1, 6⟩ := by
  decide
example : floatValue b!"1e-07" = some ⟨false, 1, -7⟩ ∧ floatValue b!"0.0000001" = some ⟨false, 1, -7⟩ := by
  decide
example : floatValue b!"-0" = some ⟨true, 0, 0⟩ ∧ floatValue b!"-0.0" = some ⟨true, 0, 0⟩ := by decide
example : floatValue b!"1.5e-07" = some ⟨false, 15, -8⟩ := by decide

end LitRT
