import JenVerif.Spec.StructTag
import JenVerif.Lemmas.QuoteRT
import JenVerif.Lemmas.PermLemmas
/-
  Struct tags (jen/tag.go, model `renderTag`) read back through
    * the Go-specification string-literal readers (`GoLex.readRaw` / `GoLex.readString`), and
    * `reflect.StructTag.Lookup` (model `StructTag.lookup`).
  Inner layer: the body of `strconv.Quote` is `Chunks`, on which the backslash-skipping scan of
  `reflect` stops at the closing quote; so one iteration of `Lookup` takes exactly one entry off
  the tag text, and `Lookup` on the text is `AList.lookup` on the entries. Outer layer: the
  rendered tag is one Go string literal whose value is that text (`literal_value`). Together:
  `lookup_eq`, of which the round trip and the absent key are the two readings.
-/

namespace TagRT
open Quote GoLex StructTag QuoteRT

/-- a byte that the scan steps over one at a time -/
def plainB (b : UInt8) : Prop := b ≠ 0x22 ∧ b ≠ 0x5C

instance (b : UInt8) : Decidable (plainB b) := by unfold plainB; infer_instance

/-- text made of plain bytes and of two-byte groups "backslash, any byte": the invariant of the
    body of `strconv.Quote` (all escape sequences are a backslash, one arbitrary byte – possibly a
    quote or a backslash – and then only hex digits, which are plain). -/
inductive Chunks : Str → Prop
  | nil : Chunks []
  | plain (c : UInt8) (t : Str) : plainB c → Chunks t → Chunks (c :: t)
  | esc (d : UInt8) (t : Str) : Chunks t → Chunks (0x5C :: d :: t)

theorem Chunks.append {a b : Str} (ha : Chunks a) (hb : Chunks b) : Chunks (a ++ b) := by
  induction ha with
  | nil => exact hb
  | plain c t hc _ ih => exact Chunks.plain c _ hc ih
  | esc d t _ ih => exact Chunks.esc d _ ih

theorem Chunks.of_plain {a : Str} (h : ∀ b ∈ a, plainB b) : Chunks a := by
  induction a with
  | nil => exact Chunks.nil
  | cons c t ih =>
    exact Chunks.plain c t (h c (by simp)) (ih (fun b hb => h b (by simp [hb])))

theorem isHex_plain : ∀ {b : UInt8}, isHex b → plainB b := by
  have : ∀ n, n < 16 → plainB (Str.hexDigit n) := by decide
  rintro _ ⟨n, hn, rfl⟩; exact this n hn

theorem quoteBody_chunks (isPrint : Nat → Bool) (s : Str) :
    Chunks (quoteBody isPrint 0x22 s.length s) :=
  quoteBody_induction (.inl rfl) (P := fun _ out => Chunks out) Chunks.nil
    (fun r _ out hv _ h22 h5c ih => (Chunks.of_plain fun b hb =>
      ⟨encodeRune_ne r hv 0x22 (by decide) h22 b hb,
        encodeRune_ne r hv 0x5C (by decide) h5c b hb⟩).append ih)
    (fun _ c hs _ _ out _ hh _ _ ih =>
      Chunks.esc c _ ((Chunks.of_plain fun b hb => isHex_plain (hh b hb)).append ih))
    s s.length (Nat.le_refl _)

theorem scan_chunks {a : Str} (ha : Chunks a) (rest : Str) :
    ∀ i, scanQuotedFrom (a ++ 0x22 :: rest) i = some (i + a.length) := by
  induction ha with
  | nil => intro i; cases rest <;> rfl
  | plain c t hc _ ih =>
    intro i
    obtain ⟨d, u, hu⟩ := List.exists_cons_of_ne_nil (l := t ++ 0x22 :: rest) (by simp)
    have := ih (i + 1)
    rw [List.cons_append, hu] at *
    rw [scanQuotedFrom, if_neg (by simpa using hc.1), if_neg (by simpa using hc.2), this]
    simp only [List.length_cons]
    congr 1; omega
  | esc d t _ ih =>
    intro i
    have := ih (i + 2)
    rw [List.cons_append, List.cons_append, scanQuotedFrom, if_neg (by decide), if_pos (by decide),
      this]
    simp only [List.length_cons]
    congr 1; omega

/-- **The scan of `reflect.StructTag.Lookup` over a value written by `strconv.Quote`.**
    Started (with `i = 1`) on text that begins with `Quote(v)`, the loop
    `for i < len(tag) && tag[i] != '"' { if tag[i] == '\\' { i++ }; i++ }` ends with `i` the index
    of the closing quote of `Quote(v)` – for every byte string `v` (also invalid UTF-8), whatever
    follows, and for every `isPrint` (the `PSafe` assumption is not needed here). -/
theorem scan_quoted_stops_at_end (isPrint : Nat → Bool) (v rest : Str) :
    scanQuoted (quote isPrint v ++ rest) = some ((quote isPrint v).length - 1) := by
  show scanQuotedFrom (quoteBody isPrint 0x22 v.length v ++ [0x22] ++ rest) 1 = _
  rw [List.append_assoc, List.singleton_append, scan_chunks (quoteBody_chunks isPrint v) rest 1]
  simp only [quote, List.length_append, List.length_cons, List.length_nil]
  congr 1

/-- consequence in the form used by `Lookup`: `qvalue` is `Quote(v)`, the remaining tag is `rest` -/
theorem scan_quoted_split (isPrint : Nat → Bool) (v rest : Str) :
    ∃ i, scanQuoted (quote isPrint v ++ rest) = some i ∧
      (quote isPrint v ++ rest).take (i + 1) = quote isPrint v ∧
      (quote isPrint v ++ rest).drop (i + 1) = rest := by
  have hl : (quote isPrint v).length - 1 + 1 = (quote isPrint v).length := by
    unfold quote; simp
  refine ⟨_, scan_quoted_stops_at_end isPrint v rest, ?_, ?_⟩
  · rw [hl, List.take_left]
  · rw [hl, List.drop_left]

/-- the text of one entry, as written by jen/tag.go: `fmt.Sprintf("%s:%q", k, v)` -/
def entry (isPrint : Nat → Bool) (kv : Str × Str) : Str :=
  kv.1 ++ b!":" ++ quote isPrint kv.2

theorem convKey_name {k : Str} (hk : convKey k = true) :
    k ≠ [] ∧ ∀ c ∈ k, isNameByte c = true := by
  unfold convKey at hk
  simp only [Bool.and_eq_true, Bool.not_eq_true', List.isEmpty_eq_false_iff, List.all_eq_true,
    decide_eq_true_eq, UInt8.le_iff_toNat_le, UInt8.reduceToNat, bne_iff_ne, ne_eq] at hk
  refine ⟨hk.1, fun c hc => ?_⟩
  obtain ⟨⟨⟨h1, h2⟩, h3⟩, h4⟩ := hk.2 c hc
  unfold isNameByte
  simp only [Bool.and_eq_true, decide_eq_true_eq, bne_iff_ne, ne_eq, GT.gt, UInt8.lt_iff_toNat_lt,
    UInt8.reduceToNat]
  refine ⟨⟨⟨by omega, h4⟩, h3⟩, ?_⟩
  intro h; rw [h] at h2; simp at h2

theorem lookupAux_nil (fuel : Nat) (key : Str) : lookupAux fuel [] key = none := by
  cases fuel <;> rfl

/-- `skipSpaces` at the head of `step` -/
theorem lookupAux_space (fuel : Nat) (s key : Str) :
    lookupAux fuel (0x20 :: s) key = lookupAux fuel s key := by
  cases fuel <;> rfl

theorem step_entry (isPrint : Nat → Bool) (k v tail : Str) (hk : convKey k = true) :
    step (entry isPrint (k, v) ++ tail) = some (k, quote isPrint v, tail) := by
  obtain ⟨hne, hname⟩ := convKey_name hk
  obtain ⟨c, t, rfl⟩ := List.exists_cons_of_ne_nil hne
  have hc20 : ¬ (c == 0x20) = true := by
    intro h; rw [beq_iff_eq] at h; subst h
    exact absurd (hname 0x20 (by simp)) (by decide)
  obtain ⟨i, hi, htake, hdrop⟩ := scan_quoted_split isPrint v tail
  have hshape : entry isPrint (c :: t, v) ++ tail =
      (c :: t) ++ (0x3A :: (quote isPrint v ++ tail)) := by
    simp [entry]
  obtain ⟨u, hu⟩ : ∃ u, quote isPrint v ++ tail = 0x22 :: u := ⟨_, rfl⟩
  rw [hshape]
  rw [hu] at hi htake hdrop ⊢
  unfold step
  rw [List.cons_append, skipSpaces, if_neg hc20, ← List.cons_append]
  dsimp only
  rw [if_neg (by simp), List.takeWhile_append_of_pos hname, List.dropWhile_append_of_pos hname,
    List.takeWhile_cons_of_neg (by decide), List.dropWhile_cons_of_neg (by decide),
    List.append_nil, afterName]
  dsimp only
  rw [if_neg (by simp), hi]
  dsimp only
  rw [htake, hdrop]

variable {isPrint : Nat → Bool}

theorem unquote_quote (hp : PSafe isPrint) (v : Str) : unquote (quote isPrint v) = some v := by
  have := string_roundtrip hp v []
  rw [List.append_nil] at this
  unfold unquote
  rw [this]

theorem lookupAux_hit (hp : PSafe isPrint) (fuel : Nat) (k v tail : Str) (hk : convKey k = true) :
    lookupAux (fuel + 1) (entry isPrint (k, v) ++ tail) k = some v := by
  rw [lookupAux, step_entry isPrint k v tail hk]
  dsimp only
  rw [if_pos (by simp), unquote_quote hp]

theorem lookupAux_skip (fuel : Nat) (k v tail key : Str) (hk : convKey k = true) (hne : key ≠ k) :
    lookupAux (fuel + 1) (entry isPrint (k, v) ++ tail) key = lookupAux fuel tail key := by
  rw [lookupAux, step_entry isPrint k v tail hk]
  dsimp only
  rw [if_neg (by simpa using hne)]

/-- the text of a tag before the outer quoting -/
def tagText (isPrint : Nat → Bool) (es : List (Str × Str)) : Str :=
  Str.join b!" " (es.map (entry isPrint))

/-- what follows the first entry of the tag text: nothing, or a space and the other entries;
    `Lookup` does not see the difference -/
theorem tagText_cons (e : Str × Str) (es : List (Str × Str)) :
    ∃ tail, tagText isPrint (e :: es) = entry isPrint e ++ tail ∧
      (tagText isPrint es).length < (entry isPrint e ++ tail).length ∧
      ∀ fuel key, lookupAux fuel tail key = lookupAux fuel (tagText isPrint es) key := by
  cases es with
  | nil =>
    exact ⟨[], by simp [tagText, Str.join], by simp [tagText, Str.join, entry]; omega,
      fun _ _ => rfl⟩
  | cons e2 es =>
    exact ⟨0x20 :: tagText isPrint (e2 :: es), by simp [tagText, Str.join], by simp; omega,
      fun fuel key => lookupAux_space fuel _ key⟩

theorem lookupAux_tagText (hp : PSafe isPrint) (key : Str) :
    ∀ (es : List (Str × Str)), (∀ kv ∈ es, convKey kv.1 = true) →
      ∀ fuel, (tagText isPrint es).length + 1 ≤ fuel →
        lookupAux fuel (tagText isPrint es) key = AList.lookup es key := by
  intro es
  induction es with
  | nil => intro _ fuel _; exact lookupAux_nil fuel key
  | cons e es ih =>
    intro hall fuel hf
    obtain ⟨f, rfl⟩ : ∃ f, fuel = f + 1 := ⟨fuel - 1, by omega⟩
    obtain ⟨k, v⟩ := e
    have hke : convKey k = true := hall (k, v) (by simp)
    obtain ⟨tail, htext, hlen, htail⟩ := tagText_cons (isPrint := isPrint) (k, v) es
    rw [htext] at hf ⊢
    rw [AList.lookup]
    by_cases hk : key = k
    · subst hk
      rw [if_pos (by simp)]
      exact lookupAux_hit hp f key v tail hke
    · rw [if_neg (by simpa using Ne.symm hk), lookupAux_skip f k v tail key hke hk, htail]
      exact ih (fun x hx => hall x (List.mem_cons_of_mem _ hx)) f (by omega)

/-- read one Go string literal (`string_lit = raw_string_lit | interpreted_string_lit`) off the
    front of `s`: (value, rest) -/
def readGoLiteral (s : Str) : Option (Str × Str) :=
  match s with
  | [] => none
  | c :: _ => if c == 0x60 then readRaw s else readString s

theorem renderTag_eq (isPrint : Nat → Bool) (m : List (Str × Str)) :
    renderTag isPrint m =
      if canBackquote (tagText isPrint (m.mergeSort tagLe)).length
          (tagText isPrint (m.mergeSort tagLe)) = true
      then b!"`" ++ tagText isPrint (m.mergeSort tagLe) ++ b!"`"
      else quote isPrint (tagText isPrint (m.mergeSort tagLe)) := rfl

theorem literal_value (hp : PSafe isPrint) (m : List (Str × Str)) (rest : Str) :
    readGoLiteral (renderTag isPrint m ++ rest) =
      some (tagText isPrint (m.mergeSort tagLe), rest) := by
  rw [renderTag_eq]
  split
  · next h =>
    show readGoLiteral (0x60 :: _) = _
    rw [readGoLiteral, if_pos (by decide)]
    exact raw_roundtrip _ rest h
  · show readGoLiteral (0x22 :: _) = _
    rw [readGoLiteral, if_neg (by decide)]
    exact string_roundtrip hp _ rest

/-- The Go compiler's reading of the literal followed by `reflect.StructTag.Lookup` is lookup in
    the (sorted) map, for every key. -/
theorem lookup_eq (hp : PSafe isPrint) (m : List (Str × Str))
    (hall : ∀ kv ∈ m, convKey kv.1 = true) (key rest : Str) :
    (readGoLiteral (renderTag isPrint m ++ rest)).bind (fun r => lookup r.1 key) =
      AList.lookup (m.mergeSort tagLe) key := by
  rw [literal_value hp m rest]
  exact lookupAux_tagText hp key _ (fun x hx => hall x (List.mem_mergeSort.mp hx)) _ (Nat.le_refl _)

theorem lookup_roundtrip (hp : PSafe isPrint) (m : List (Str × Str))
    (nd : (m.map (·.1)).Nodup) (hall : ∀ kv ∈ m, convKey kv.1 = true) :
    ∀ kv ∈ m, ∀ rest,
      (readGoLiteral (renderTag isPrint m ++ rest)).bind (fun r => lookup r.1 kv.1) = some kv.2 := by
  intro kv hkv rest
  rw [lookup_eq hp m hall]
  exact AList.lookup_of_mem
    ((((List.mergeSort_perm m tagLe).map (·.1)).nodup_iff).mpr nd) (List.mem_mergeSort.mpr hkv)

theorem lookup_absent (hp : PSafe isPrint) (m : List (Str × Str))
    (hall : ∀ kv ∈ m, convKey kv.1 = true) (key : Str) (hne : ∀ kv ∈ m, key ≠ kv.1) (rest : Str) :
    (readGoLiteral (renderTag isPrint m ++ rest)).bind (fun r => lookup r.1 key) = none := by
  rw [lookup_eq hp m hall]
  exact AList.lookup_eq_none _ _ fun x hx => Ne.symm (hne x (List.mem_mergeSort.mp hx))

theorem keys_strictly_sorted (m : List (Str × Str)) (nd : (m.map (·.1)).Nodup) :
    (m.mergeSort tagLe).Pairwise (fun a b => Str.lt a.1 b.1 = true) := by
  have hnd : ((m.mergeSort tagLe).map (·.1)).Nodup :=
    (((List.mergeSort_perm m tagLe).map (·.1)).nodup_iff).mpr nd
  refine ((PermLemmas.sorted_by_key_pairwise m).and (List.pairwise_map.mp hnd)).imp fun h => ?_
  unfold Str.lt
  simp only [Bool.and_eq_true, Bool.not_eq_true', beq_eq_false_iff_ne]
  exact h

theorem tag_null_iff (np : Str → Bool) (m : List (Str × Str)) :
    Code.isNull np (.tag m) = true ↔ m = [] := by
  simp [Code.isNull]

theorem empty_is_null (np : Str → Bool) : Code.isNull np (.tag []) = true :=
  (tag_null_iff np []).mpr rfl

/-- the rendering does not depend on the order in which the Go map is iterated -/
theorem tag_perm (isPrint : Nat → Bool) {l₁ l₂ : List (Str × Str)} (h : l₁.Perm l₂)
    (nd : (l₁.map (·.1)).Nodup) : renderTag isPrint l₁ = renderTag isPrint l₂ :=
  PermLemmas.tag_perm isPrint h nd

/-- on an already sorted list the sort is the identity (used to let the kernel evaluate examples;
    `List.mergeSort` itself is defined by well-founded recursion) -/
theorem renderTag_of_sorted (isPrint : Nat → Bool) (m : List (Str × Str))
    (h : m.Pairwise (fun a b => tagLe a b = true)) :
    renderTag isPrint m =
      if canBackquote (tagText isPrint m).length (tagText isPrint m) = true
      then b!"`" ++ tagText isPrint m ++ b!"`"
      else quote isPrint (tagText isPrint m) := by
  rw [renderTag_eq, List.mergeSort_of_pairwise h]

/-- The model's text for an empty map. `tag.render` (jen/tag.go:41) returns there before it
    writes anything; neither is reached, since the tag is null. -/
theorem renderTag_nil (isPrint : Nat → Bool) : renderTag isPrint [] = b!"``" := by
  rw [renderTag_of_sorted _ _ List.Pairwise.nil]; rfl

section Examples

/-- a value with a double quote: the tag text has no back quote, the outer literal is raw -/
def m1 : List (Str × Str) := [(b!"json", b!"a\"b"), (b!"xml", b!"-")]

/-- a value with a back quote: the outer literal is an interpreted string, quoted twice -/
def m2 : List (Str × Str) := [(b!"json", b!"a`b,omitempty"), (b!"xml", b!"\n")]

example : (m1.map (·.1)).Nodup := by decide
example : ∀ kv ∈ m1, convKey kv.1 = true := by decide
example : (m2.map (·.1)).Nodup := by decide
example : ∀ kv ∈ m2, convKey kv.1 = true := by decide

theorem renderTag_m1 : renderTag (fun _ => false) m1 = b!"`json:\"a\\\"b\" xml:\"-\"`" := by
  rw [renderTag_of_sorted _ _ (by decide)]; decide +kernel

theorem renderTag_m2 : renderTag (fun _ => false) m2 =
    b!"\"json:\\\"a`b,omitempty\\\" xml:\\\"\\\\n\\\"\"" := by
  rw [renderTag_of_sorted _ _ (by decide)]; decide +kernel

example : renderTag (fun _ => false) m1 = b!"`json:\"a\\\"b\" xml:\"-\"`" := renderTag_m1
example : renderTag (fun _ => false) m2 =
    b!"\"json:\\\"a`b,omitempty\\\" xml:\\\"\\\\n\\\"\"" := renderTag_m2

/-- evaluated by the kernel, raw outer literal -/
example : (readGoLiteral (renderTag (fun _ => false) m1 ++ b!" // x")).bind
    (fun r => lookup r.1 b!"json") = some b!"a\"b" := by
  rw [renderTag_m1]; decide +kernel
example : (readGoLiteral (renderTag (fun _ => false) m1 ++ b!" // x")).bind
    (fun r => lookup r.1 b!"xml") = some b!"-" := by
  rw [renderTag_m1]; decide +kernel
/-- evaluated by the kernel, interpreted outer literal -/
example : (readGoLiteral (renderTag (fun _ => false) m2 ++ b!" // x")).bind
    (fun r => lookup r.1 b!"json") = some b!"a`b,omitempty" := by
  rw [renderTag_m2]; decide +kernel
example : (readGoLiteral (renderTag (fun _ => false) m2 ++ b!" // x")).bind
    (fun r => lookup r.1 b!"xml") = some b!"\n" := by
  rw [renderTag_m2]; decide +kernel
example : (readGoLiteral (renderTag (fun _ => false) m2 ++ b!" // x")).bind
    (fun r => lookup r.1 b!"yaml") = none := by
  rw [renderTag_m2]; decide +kernel

/-- the same facts as instances of the theorems (unsorted input, arbitrary continuation) -/
example (rest : Str) : (readGoLiteral (renderTag (fun _ => false) m1.reverse ++ rest)).bind
    (fun r => lookup r.1 b!"json") = some b!"a\"b" :=
  lookup_roundtrip PSafe_false m1.reverse (by decide) (by decide) (b!"json", b!"a\"b")
    (by decide) rest
example (rest : Str) :
    (readGoLiteral (renderTag (fun r => decide (0xE0 ≤ r ∧ r ≤ 0xF6)) m2 ++ rest)).bind
      (fun r => lookup r.1 b!"xml") = some b!"\n" :=
  lookup_roundtrip PSafe_latin m2 (by decide) (by decide) (b!"xml", b!"\n") (by decide) rest
example (rest : Str) : (readGoLiteral (renderTag (fun _ => false) m2 ++ rest)).bind
    (fun r => lookup r.1 b!"yaml") = none :=
  lookup_absent PSafe_false m2 (by decide) b!"yaml" (by decide) rest
example : renderTag (fun _ => false) m1.reverse = renderTag (fun _ => false) m1 :=
  tag_perm _ (List.reverse_perm _) (by decide)
/-- the scan on a value full of quotes, backslashes and invalid UTF-8 -/
example : scanQuoted (quote (fun _ => false) [0x22, 0x5C, 0x5C, 0x22, 0xFF, 0x0A] ++ b!" k:\"v\"") =
    some ((quote (fun _ => false) [0x22, 0x5C, 0x5C, 0x22, 0xFF, 0x0A]).length - 1) := by decide
example : quote (fun _ => false) [0x22, 0x5C, 0x5C, 0x22, 0xFF, 0x0A] =
    b!"\"\\\"\\\\\\\\\\\"\\xff\\n\"" := by decide

end Examples

end TagRT
