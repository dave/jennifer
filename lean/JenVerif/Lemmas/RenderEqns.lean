import JenVerif.Render
/-
  Unfolding equations of the stateful renderer (`renderItemsS`, `Qual`, the two Dict loops);
  `preReg` names the state in which `renderItems` looks at an item.
-/
namespace Code
open Registry

/-- the state in which `renderItems` tests and renders an item: a direct package token is
    registered first (jen/group.go:98) -/
def preReg (cfg : Cfg) (f : FileS) : Code → FileS
  | .tok .pkg s => (register cfg f s).2
  | _ => f

theorem preReg_not_pkg (cfg : Cfg) (f : FileS) (c : Code) (hd : ∀ s, c ≠ .tok .pkg s) :
    preReg cfg f c = f := by
  cases c with
  | tok k s =>
    cases k
    case pkg => exact absurd rfl (hd s)
    all_goals rfl
  | _ => rfl

theorem renderItemsS_cons (cfg : Cfg) (g : GInfo) (first : Bool) (f : FileS) (c : Code) (cs : List Code) :
    renderItemsS cfg g first f (c :: cs) =
      if isNull (preReg cfg f c).np c then renderItemsS cfg g first (preReg cfg f c) cs
      else
        (itemLead g first ++ (renderS cfg (preReg cfg f c) none c).1 ++
            (renderItemsS cfg g false (renderS cfg (preReg cfg f c) none c).2 cs).1,
          (renderItemsS cfg g false (renderS cfg (preReg cfg f c) none c).2 cs).2.1,
          (renderItemsS cfg g false (renderS cfg (preReg cfg f c) none c).2 cs).2.2) := rfl

/-- `Qual(path, name)` is a group of the package token and the name: the path is registered by
    `renderItems` before the null test and, if the token is not null, again when it is rendered -/
theorem renderS_qual (cfg : Cfg) (f : FileS) (prev : Option Code) (p n : Str) :
    renderS cfg f prev (Code.qual p n) =
      if (register cfg f p).2.np p then (n, (register cfg f p).2)
      else
        ((register cfg (register cfg f p).2 p).1 ++ b!"." ++ n, (register cfg (register cfg f p).2 p).2) := by
  cases h : (register cfg f p).2.np p <;>
    simp [Code.qual, renderS, qualInfo, renderItemsS, isNull, allNull, effDelims, closeSep, itemLead, h]

theorem dictLoop1_cons {σ} (np : σ → Str → Bool) (f : σ) (e : DEntry σ) (es : List (DEntry σ)) :
    dictLoop1 np f (e :: es) =
      if e.kNull (np f) || e.vNull (np f) then dictLoop1 np f es
      else
        (((e.kR f).1, (e.vR (e.kR f).2).1, e) :: (dictLoop1 np (e.vR (e.kR f).2).2 es).1,
          (dictLoop1 np (e.vR (e.kR f).2).2 es).2) := rfl

theorem dictLoop2_cons {σ} (n : Nat) (first : Bool) (f : σ) (t : Str × Str × DEntry σ)
    (es : List (Str × Str × DEntry σ)) :
    dictLoop2 n first f (t :: es) =
      ((if first && n > 1 then b!"\n" else []) ++ (t.2.2.kR f).1 ++ b!":" ++ (t.2.2.vR (t.2.2.kR f).2).1 ++
          (if n > 1 then b!",\n" else []) ++ (dictLoop2 n false (t.2.2.vR (t.2.2.kR f).2).2 es).1,
        (dictLoop2 n false (t.2.2.vR (t.2.2.kR f).2).2 es).2) := rfl

/-- with at most one pair nothing is written for `first`: the flag is irrelevant -/
theorem dictLoop2_first {σ} (n : Nat) (hn : ¬ n > 1) (first : Bool) (f : σ) (ts : List (Str × Str × DEntry σ)) :
    dictLoop2 n first f ts = dictLoop2 n false f ts := by
  cases ts with
  | nil => simp [dictLoop2]
  | cons t ts => simp [dictLoop2, hn]

theorem renderDictWith_eq {σ} (np : σ → Str → Bool) (f : σ) (es : List (DEntry σ)) :
    renderDictWith np f es =
      dictLoop2 ((dictLoop1 np f es).1.mergeSort dictKeyLe).length true (dictLoop1 np f es).2
        ((dictLoop1 np f es).1.mergeSort dictKeyLe) := rfl

end Code
