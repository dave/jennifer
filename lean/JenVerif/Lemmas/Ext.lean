import JenVerif.FileRender
import JenVerif.Lemmas.RenderEqns
import JenVerif.Lemmas.RegistryInv
/-
  The order on file states along which a render moves (`Ext`: same hints/prefix/path, registered
  names kept, same null-ness), the naming a state provides to the pure renderer (`envOf`) and what
  the renderer needs from `register` (`Good`).  Namespace `Refine`, with `Lemmas/Refine.lean`.
-/
namespace Refine
open Code Registry

structure SameStatic (f f' : FileS) : Prop where
  path : f'.path = f.path
  hints : f'.hints = f.hints
  pfx : f'.pfx = f.pfx

theorem SameStatic.refl (f : FileS) : SameStatic f f := ⟨rfl, rfl, rfl⟩

theorem SameStatic.trans {a b c : FileS} (h1 : SameStatic a b) (h2 : SameStatic b c) : SameStatic a c :=
  ⟨h2.path.trans h1.path, h2.hints.trans h1.hints, h2.pfx.trans h1.pfx⟩

theorem isLocal_static {f f' : FileS} (s : SameStatic f f') (p : Str) : isLocal f' p = isLocal f p := by
  simp only [isLocal, s.path]

structure Ext (f f' : FileS) : Prop where
  static : SameStatic f f'
  keep : ∀ p, isReg f p = true → lookupImp f' p = lookupImp f p
  np : ∀ p, f'.np p = f.np p

theorem Ext.refl (f : FileS) : Ext f f := ⟨SameStatic.refl f, fun _ _ => rfl, fun _ => rfl⟩

theorem isReg_of_lookup_eq {f f' : FileS} {p : Str} (h : lookupImp f' p = lookupImp f p) :
    isReg f' p = isReg f p := by simp [isReg, h]

theorem isReg_keep {f f' : FileS} (e : Ext f f') {p : Str} (h : isReg f p = true) : isReg f' p = true :=
  (isReg_of_lookup_eq (e.keep p h)).trans h

theorem Ext.trans {a b c : FileS} (h1 : Ext a b) (h2 : Ext b c) : Ext a c :=
  ⟨h1.static.trans h2.static, fun p hp => (h2.keep p (isReg_keep h1 hp)).trans (h1.keep p hp),
    fun p => (h2.np p).trans (h1.np p)⟩

theorem Ext.np_eq {f f' : FileS} (h : Ext f f') : f'.np = f.np := funext h.np

theorem np_of_ext {f f' : FileS} {np : Str → Bool} (h : Ext f f') (hnp : f.np = np) : f'.np = np :=
  h.np_eq.trans hnp

def envOf (f : FileS) : Env := { np := f.np, name := fun p => (lookupImp f p).name }

/-- what the refinement needs from `register`; `RegistryGood.good_of_hintsOk` derives it from the hint
    guard.  It speaks of every state with the same hints/prefix/path, so that it passes to every
    later state (`good_of_ext`). -/
def Good (cfg : Cfg) (f : FileS) : Prop :=
  ∀ f', SameStatic f f' → ∀ p, isLocal f' p = false →
    isReg (register cfg f' p).2 p = true ∧
    (register cfg f' p).1 = (lookupImp (register cfg f' p).2 p).name ∧
    ∀ q, (register cfg f' p).2.np q = f'.np q

theorem good_of_ext {cfg : Cfg} {f f' : FileS} (hg : Good cfg f) (h : Ext f f') : Good cfg f' :=
  fun f'' s p hp => hg f'' (h.static.trans s) p hp

theorem register_static (cfg : Cfg) (f : FileS) (p : Str) : SameStatic f (register cfg f p).2 := by
  rw [RegistryInv.register_writes]; exact ⟨rfl, rfl, rfl⟩

theorem register_ext (cfg : Cfg) (f : FileS) (hg : Good cfg f) (p : Str) : Ext f (register cfg f p).2 := by
  refine ⟨register_static cfg f p, fun _ hq => RegistryInv.register_keeps hq, ?_⟩
  cases hl : isLocal f p with
  | true => rw [RegistryInv.register_local hl]; exact fun _ => rfl
  | false => exact (hg f (SameStatic.refl f) p hl).2.2

theorem preReg_ext (cfg : Cfg) (f : FileS) (hg : Good cfg f) (c : Code) : Ext f (preReg cfg f c) := by
  unfold preReg
  split
  · exact register_ext cfg f hg _
  · exact Ext.refl f

theorem dictNull_congr (np np' : Str → Bool) (h : ∀ p, np' p = np p) : ∀ ps, dictNull np' ps = dictNull np ps :=
  fun _ => by rw [funext h]

theorem isNull_ext {f f' : FileS} (h : Ext f f') (c : Code) : isNull f'.np c = isNull f.np c := by
  rw [h.np_eq]

/-- the only codes whose stateful and pure renderings can differ are NULL package tokens (the
    local path, a dot import): they are never rendered, only pre-registered -/
def PkgNonNull (f : FileS) : Code → Prop
  | .tok .pkg s => f.np s = false
  | _ => True

theorem pkgNonNull_of_nonNull {f : FileS} {np : Str → Bool} {c : Code} (hnp : f.np = np)
    (h : isNull np c = false) : PkgNonNull f c := by
  subst hnp
  unfold PkgNonNull
  split
  · simpa [isNull] using h
  · trivial

end Refine
