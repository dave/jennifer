import JenVerif.Lemmas.Ext
/-
  Bridge between the registry invariants and the refinement theorem: under the hint guard,
  `register` never changes the null-ness of any package token, hence `Refine.Good` holds.
-/
namespace RegistryGood
open Registry RegistryInv Refine

def hintDot (f : FileS) (p : Str) : Bool := (lookupHint f p).name == b!"." && (lookupHint f p).alias

theorem ident_ne_dot {n : Str} (h : isIdent n = true) : n ≠ b!"." := by
  intro e; rw [e] at h; revert h; decide

/-- the name chosen for a new path is "." exactly when the user asked for a dot import -/
theorem chooseDef_dot_iff {cfg : Cfg} {f : FileS} (hH : HintsOk f) (hS : StdOk cfg) (p : Str) :
    ((chooseDef cfg f p).name == b!".") = hintDot f p := by
  rw [Bool.eq_iff_iff, beq_iff_eq, hintDot, Bool.and_eq_true, beq_iff_eq]
  constructor
  · intro e
    -- nothing was appended or prefixed to get a one-byte name, so the candidate is "." too, and an
    -- alias (`chooseBase_ok`); a table name is not an alias and a guess is an identifier
    have hb := pcand_len_one (chooseBase_ne_nil cfg f p) rfl e
    have ha := ((chooseBase_ok hH hS p).resolve_right fun h => ident_ne_dot h.1 hb).2
    rcases chooseBase_cases cfg f p with ⟨_, eb⟩ | ⟨_, _, eb⟩ | ⟨_, _, eb⟩ <;> rw [eb] at hb ha
    · exact ⟨hb, ha⟩
    · cases ha
    · exact absurd hb (ident_ne_dot (guessAlias_ident _ _))
  · intro h
    rw [chooseDef_of_dot (by simp [chooseBase, h.1, h.2])]

theorem isDotImport_unreg {f : FileS} {p : Str} (hC : p ≠ b!"C") (h : isReg f p = false) :
    isDotImport f p = hintDot f p := by
  simp [isDotImport, hC, h, hintDot]

/-- `register` never changes the null-ness of any package token -/
theorem register_np {cfg : Cfg} {f : FileS} (hH : HintsOk f) (hS : StdOk cfg) (p q : Str) :
    (register cfg f p).2.np q = f.np q := by
  rcases register_cases cfg f p with ⟨_, e⟩ | ⟨_, _, e⟩ | ⟨hl, hr, e⟩
  · rw [e]
  · rw [e]
  -- a new entry: only `isDotImport · p` could change, from "the hint is a dot alias" to "the
  -- stored name is `.`", and these agree (`chooseDef_dot_iff`)
  unfold FileS.np
  rw [register_isLocal]
  congr 1
  by_cases hC : q = b!"C"
  · simp [isDotImport, hC]
  by_cases hqp : q = p
  · subst hqp
    have hreg := register_isReg (cfg := cfg) hH hS hl
    have e1 : isDotImport (register cfg f q).2 q =
        ((lookupImp (register cfg f q).2 q).name == b!".") := by
      simp [isDotImport, hC, hreg]
    rw [isDotImport_unreg hC hr, e1, e, lookupImp_insert_self, newDef_of_ne_C cfg f hC]
    exact chooseDef_dot_iff hH hS q
  · simp [isDotImport, isReg, register_other (cfg := cfg) hqp, lookupHint, register_hints]

theorem good_of_hintsOk {cfg : Cfg} {f : FileS} (hH : HintsOk f) (hS : StdOk cfg) : Good cfg f := by
  intro f' s p hl
  have hH' := hintsOk_congr s.hints s.pfx hH
  have hr := register_returns_stored (cfg := cfg) hH' hS hl
  exact ⟨register_isReg hH' hS hl, hr.1.symm, fun q => register_np hH' hS p q⟩

end RegistryGood
