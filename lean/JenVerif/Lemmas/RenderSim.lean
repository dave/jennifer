import JenVerif.Lemmas.RenderEqns
import JenVerif.Lemmas.RegEq
/-
  The stateful renderer touches the file state through two operations only: the null-ness test
  `FileS.np` and `Registry.register`.  Hence every relation between file states that these two
  respect is respected by the whole renderer (`renderS_sim`).  The frame property, the congruence
  under re-ordered hint tables and every invariant of `register` are instances.
-/
namespace Code
open Registry

def RelR (R : FileS → FileS → Prop) (r₁ r₂ : Str × FileS) : Prop := r₁.1 = r₂.1 ∧ R r₁.2 r₂.2

structure Sim (cfg : Cfg) (R : FileS → FileS → Prop) : Prop where
  np : ∀ {f₁ f₂}, R f₁ f₂ → f₁.np = f₂.np
  reg : ∀ {f₁ f₂}, R f₁ f₂ → ∀ p, RelR R (register cfg f₁ p) (register cfg f₂ p)

/-- `register` reads a file state only up to `RegEq` and writes only `imports` -/
theorem Sim.of_regEq {cfg : Cfg} {R : FileS → FileS → Prop} (hR : ∀ {f₁ f₂}, R f₁ f₂ → RegEq f₁ f₂)
    (hI : ∀ {f₁ f₂} (i : List (Str × Def)), R f₁ f₂ →
      R { f₁ with imports := i } { f₂ with imports := i }) : Sim cfg R :=
  ⟨fun h => (hR h).np, fun {f₁ f₂} h p => ⟨((hR h).register cfg p).1, by
    rw [RegistryInv.register_writes cfg f₁, RegistryInv.register_writes cfg f₂, ((hR h).register cfg p).2]
    exact hI _ h⟩⟩

def EntrySim (R : FileS → FileS → Prop) (e : DEntry FileS) : Prop :=
  ∀ f₁ f₂, R f₁ f₂ → RelR R (e.kR f₁) (e.kR f₂) ∧ RelR R (e.vR f₁) (e.vR f₂)

theorem dictLoop1_mem {σ} {np : σ → Str → Bool} {es : List (DEntry σ)} {f : σ} {x : Str × Str × DEntry σ}
    (hx : x ∈ (dictLoop1 np f es).1) : x.2.2 ∈ es := by
  induction es generalizing f with
  | nil => cases hx
  | cons e es ih =>
    rw [dictLoop1] at hx
    split at hx
    · exact .tail _ (ih hx)
    · rcases List.mem_cons.1 hx with rfl | hx'
      · exact .head _
      · exact .tail _ (ih hx')

theorem dictLoop2_sim {R : FileS → FileS → Prop} (n : Nat) (l : List (Str × Str × DEntry FileS))
    (hl : ∀ x ∈ l, EntrySim R x.2.2) (first : Bool) {f₁ f₂ : FileS} (h : R f₁ f₂) :
    RelR R (dictLoop2 n first f₁ l) (dictLoop2 n first f₂ l) := by
  induction l generalizing f₁ f₂ first with
  | nil => exact ⟨rfl, h⟩
  | cons x l ih =>
    have hk := (hl x (.head _) f₁ f₂ h).1
    have hv := (hl x (.head _) _ _ hk.2).2
    have hr := @ih (fun x hx => hl x (.tail _ hx)) false _ _ hv.2
    rw [dictLoop2, dictLoop2]
    exact ⟨by simp only [hk.1, hv.1, hr.1], hr.2⟩

theorem dictLoop1_sim {R : FileS → FileS → Prop} (hnp : ∀ {f₁ f₂}, R f₁ f₂ → f₁.np = f₂.np)
    (es : List (DEntry FileS)) (hes : ∀ e ∈ es, EntrySim R e) {f₁ f₂ : FileS} (h : R f₁ f₂) :
    (dictLoop1 FileS.np f₁ es).1 = (dictLoop1 FileS.np f₂ es).1 ∧
      R (dictLoop1 FileS.np f₁ es).2 (dictLoop1 FileS.np f₂ es).2 := by
  induction es generalizing f₁ f₂ with
  | nil => exact ⟨rfl, h⟩
  | cons e es ih =>
    have ih' := fun {f₁ f₂} => @ih (fun e he => hes e (.tail _ he)) f₁ f₂
    rw [dictLoop1, dictLoop1, hnp h]
    split
    · exact ih' h
    · have hk := (hes e (.head _) f₁ f₂ h).1
      have hv := (hes e (.head _) _ _ hk.2).2
      have hr := ih' hv.2
      exact ⟨by simp only [hk.1, hv.1, hr.1], hr.2⟩

theorem renderDictWith_sim {R : FileS → FileS → Prop} (hnp : ∀ {f₁ f₂}, R f₁ f₂ → f₁.np = f₂.np)
    (es : List (DEntry FileS)) (hes : ∀ e ∈ es, EntrySim R e) {f₁ f₂ : FileS} (h : R f₁ f₂) :
    RelR R (renderDictWith FileS.np f₁ es) (renderDictWith FileS.np f₂ es) := by
  have h1 := dictLoop1_sim hnp es hes h
  rw [renderDictWith_eq, renderDictWith_eq, h1.1]
  exact dictLoop2_sim _ _ (fun x hx => hes _ (dictLoop1_mem (List.mem_mergeSort.1 hx))) true h1.2

theorem preReg_sim {cfg : Cfg} {R : FileS → FileS → Prop} (hR : Sim cfg R) {f₁ f₂ : FileS} (h : R f₁ f₂)
    (c : Code) : R (preReg cfg f₁ c) (preReg cfg f₂ c) := by
  unfold preReg
  split
  · exact (hR.reg h _).2
  · exact h

mutual
theorem renderS_sim {cfg : Cfg} {R : FileS → FileS → Prop} (hR : Sim cfg R) :
    ∀ (c : Code) (prev : Option Code) {f₁ f₂ : FileS}, R f₁ f₂ →
      RelR R (renderS cfg f₁ prev c) (renderS cfg f₂ prev c)
  | .tok k s, _, _, _, h => by
    cases k
    case pkg => exact hR.reg h s
    all_goals exact ⟨rfl, h⟩
  | .group g items, prev, f₁, f₂, h => by
    have ih := renderItemsS_sim hR items g true h
    simp only [renderS, hR.np h]
    split
    · exact ⟨rfl, h⟩
    · exact ⟨by simp only [ih.1, ih.2.1], ih.2.2⟩
  | .stmt items, _, _, _, h => by simp only [renderS]; exact renderStmtS_sim hR items true none h
  | .dict ps, _, _, _, h => by simp only [renderS]; exact renderDictWith_sim hR.np _ (dictEntriesS_sim hR ps) h
  | .nilc, _, _, _, h | .lit _, _, _, _, h | .tag _, _, _, _, h | .comment _, _, _, _, h => ⟨rfl, h⟩

theorem renderItemsS_sim {cfg : Cfg} {R : FileS → FileS → Prop} (hR : Sim cfg R) :
    ∀ (cs : List Code) (g : GInfo) (first : Bool) {f₁ f₂ : FileS}, R f₁ f₂ →
      (renderItemsS cfg g first f₁ cs).1 = (renderItemsS cfg g first f₂ cs).1 ∧
      (renderItemsS cfg g first f₁ cs).2.1 = (renderItemsS cfg g first f₂ cs).2.1 ∧
      R (renderItemsS cfg g first f₁ cs).2.2 (renderItemsS cfg g first f₂ cs).2.2
  | [], _, _, _, _, h => ⟨rfl, rfl, h⟩
  | c :: cs, g, first, f₁, f₂, h => by
    have h0 := preReg_sim hR h c
    rw [renderItemsS_cons, renderItemsS_cons, hR.np h0]
    split
    · exact renderItemsS_sim hR cs g first h0
    · have r1 := renderS_sim hR c none h0
      have r2 := renderItemsS_sim hR cs g false r1.2
      exact ⟨by simp only [r1.1, r2.1], r2.2.1, r2.2.2⟩

theorem renderStmtS_sim {cfg : Cfg} {R : FileS → FileS → Prop} (hR : Sim cfg R) :
    ∀ (cs : List Code) (first : Bool) (prev : Option Code) {f₁ f₂ : FileS}, R f₁ f₂ →
      RelR R (renderStmtS cfg first prev f₁ cs) (renderStmtS cfg first prev f₂ cs)
  | [], _, _, _, _, h => ⟨rfl, h⟩
  | c :: cs, first, prev, f₁, f₂, h => by
    rw [renderStmtS, renderStmtS, hR.np h]
    split
    · exact renderStmtS_sim hR cs first (some c) h
    · have r1 := renderS_sim hR c prev h
      have r2 := renderStmtS_sim hR cs false (some c) r1.2
      exact ⟨by simp only [r1.1, r2.1], r2.2⟩

theorem dictEntriesS_sim {cfg : Cfg} {R : FileS → FileS → Prop} (hR : Sim cfg R) :
    ∀ (ps : List (Code × Code)), ∀ e ∈ dictEntriesS cfg ps, EntrySim R e
  | [], _, he => by cases he
  | (k, v) :: ps, e, he => by
    rw [dictEntriesS] at he
    rcases List.mem_cons.1 he with rfl | he
    · exact fun _ _ h => ⟨renderS_sim hR k none h, renderS_sim hR v none h⟩
    · exact dictEntriesS_sim hR ps e he
end

theorem inv_sim {cfg : Cfg} {I : FileS → Prop} (hI : ∀ f p, I f → I (register cfg f p).2) :
    Sim cfg fun f₁ f₂ => f₁ = f₂ ∧ I f₁ :=
  ⟨fun h => by rw [h.1], fun h p => by obtain ⟨rfl, h⟩ := h; exact ⟨rfl, rfl, hI _ p h⟩⟩

section
variable {cfg : Cfg} {I : FileS → Prop} (hI : ∀ f p, I f → I (register cfg f p).2)
include hI

theorem renderS_inv (c : Code) (prev : Option Code) {f : FileS} (h : I f) : I (renderS cfg f prev c).2 :=
  (renderS_sim (inv_sim hI) c prev ⟨rfl, h⟩).2.2

theorem renderItemsS_inv (cs : List Code) (g : GInfo) (first : Bool) {f : FileS} (h : I f) :
    I (renderItemsS cfg g first f cs).2.2 :=
  (renderItemsS_sim (inv_sim hI) cs g first ⟨rfl, h⟩).2.2.2

theorem renderStmtS_inv (cs : List Code) (first : Bool) (prev : Option Code) {f : FileS} (h : I f) :
    I (renderStmtS cfg first prev f cs).2 :=
  (renderStmtS_sim (inv_sim hI) cs first prev ⟨rfl, h⟩).2.2

theorem dictEntriesS_inv (ps : List (Code × Code)) (e : DEntry FileS) (he : e ∈ dictEntriesS cfg ps) {f : FileS}
    (h : I f) : I (e.kR f).2 ∧ I (e.vR f).2 :=
  have s := dictEntriesS_sim (inv_sim hI) ps e he f f ⟨rfl, h⟩
  ⟨s.1.2.2, s.2.2.2⟩

end

end Code
