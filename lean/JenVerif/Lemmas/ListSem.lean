import JenVerif.Render
/-
  T-L: list semantics of the pure renderer — what a group writes is exactly its non-null items, in
  order, for every arity (`renderItemsP_eq`); its text and its misuse outcome depend on those items
  only (`renderP_group_filter`, `misuse_group_filter`), so null ("void") items can be inserted or
  removed anywhere.  For the items of a statement: `renderStmtP_cons` … `renderStmtP_append`.
-/
namespace Code

/-- closed form of a group's item rendering: each kept item preceded by its lead -/
def joinItems (g : GInfo) : Bool → List Str → Str
  | _, [] => []
  | first, t :: ts => itemLead g first ++ t ++ joinItems g false ts

/-- text and "nothing was rendered" flag of `renderItems` under a fixed naming -/
theorem renderItemsP_eq (cfg : Cfg) (e : Env) (g : GInfo) : ∀ (first : Bool) (cs : List Code),
    renderItemsP cfg e g first cs =
      (joinItems g first ((cs.filter fun c => !isNull e.np c).map (renderP cfg e none)),
        first && allNull e.np cs)
  | first, [] => by simp [renderItemsP, joinItems, allNull]
  | first, c :: cs => by
      by_cases h : isNull e.np c = true
      · simp [renderItemsP, h, allNull, renderItemsP_eq cfg e g first cs]
      · simp [renderItemsP, h, allNull, joinItems, renderItemsP_eq cfg e g false cs]

theorem renderItemsP_closed (cfg : Cfg) (e : Env) (g : GInfo) : ∀ (first : Bool) (cs : List Code),
    (renderItemsP cfg e g first cs).1 =
      joinItems g first ((cs.filter fun c => !isNull e.np c).map (renderP cfg e none)) :=
  fun first cs => congrArg Prod.fst (renderItemsP_eq cfg e g first cs)

theorem allNull_append (np : Str → Bool) : ∀ (xs ys : List Code),
    allNull np (xs ++ ys) = (allNull np xs && allNull np ys)
  | [], ys => by simp [allNull]
  | x :: xs, ys => by simp [allNull, allNull_append np xs ys, Bool.and_assoc]

theorem allNull_filter (np : Str → Bool) : ∀ cs : List Code,
    allNull np (cs.filter fun c => !isNull np c) = allNull np cs
  | [] => by simp
  | c :: cs => by
      by_cases h : isNull np c = true
      · simp [h, allNull, allNull_filter np cs]
      · simp [h, allNull]

theorem renderP_group_filter (cfg : Cfg) (e : Env) (prev : Option Code) (g : GInfo) (cs : List Code) :
    renderP cfg e prev (.group g cs) = renderP cfg e prev (.group g (cs.filter fun c => !isNull e.np c)) := by
  simp only [renderP, renderItemsP_eq, List.filter_filter, allNull_filter, Bool.and_self]

theorem render_same_kept (cfg : Cfg) (e : Env) (prev : Option Code) (g : GInfo) (xs ys : List Code)
    (h : (xs.filter fun c => !isNull e.np c) = (ys.filter fun c => !isNull e.np c)) :
    renderP cfg e prev (.group g xs) = renderP cfg e prev (.group g ys) := by
  rw [renderP_group_filter cfg e prev g xs, renderP_group_filter cfg e prev g ys, h]

theorem countKept_filter (np : Str → Bool) : ∀ cs : List Code,
    countKept np (cs.filter fun c => !isNull np c) = countKept np cs
  | [] => rfl
  | c :: cs => by
      cases h : isNull np c <;> simp [h, countKept, countKept_filter np cs]

theorem misuseItems_filter (np : Str → Bool) (b : Bool) : ∀ cs : List Code,
    misuseItems np b (cs.filter fun c => !isNull np c) = misuseItems np b cs
  | [] => rfl
  | c :: cs => by
      cases h : isNull np c <;> simp [h, misuseItems, misuseItems_filter np b cs]

theorem misuse_group_filter (np : Str → Bool) (g : GInfo) (cs : List Code) :
    misuse np (.group g cs) = misuse np (.group g (cs.filter fun c => !isNull np c)) := by
  simp only [misuse, allNull_filter, countKept_filter, misuseItems_filter]

theorem dictPairsP_eq (cfg : Cfg) (e : Env) : ∀ ps : List (Code × Code),
    dictPairsP cfg e ps =
      (ps.filter fun p => !(isNull e.np p.1 || isNull e.np p.2)).map fun p =>
        (renderP cfg e none p.1, renderP cfg e none p.2)
  | [] => rfl
  | (k, v) :: ps => by
      rw [dictPairsP, dictTextsP, List.filter_cons, dictPairsP_eq cfg e ps]
      cases (isNull e.np k || isNull e.np v) <;> rfl

/-! ### the items of a statement

The counterpart for `renderStmtP`: null items write nothing, a kept item is written behind a space
unless it is the first; what a statement keeps of its history is the "first" flag and the raw item
before (which a `Block` looks at). -/

theorem renderStmtP_cons (cfg : Cfg) (e : Env) {c : Code} (h : isNull e.np c = false) (first : Bool)
    (prev : Option Code) (cs : List Code) :
    renderStmtP cfg e first prev (c :: cs) =
      (if first then [] else b!" ") ++ (renderP cfg e prev c ++ renderStmtP cfg e false (some c) cs) := by
  rw [renderStmtP, h, List.append_assoc]; rfl

theorem renderStmtP_cons_null (cfg : Cfg) (e : Env) {c : Code} (h : isNull e.np c = true) (first : Bool)
    (prev : Option Code) (cs : List Code) :
    renderStmtP cfg e first prev (c :: cs) = renderStmtP cfg e first (some c) cs := by
  rw [renderStmtP, if_pos h]

theorem renderStmtP_allNull (cfg : Cfg) (e : Env) : ∀ (xs : List Code) (first : Bool) (prev : Option Code),
    allNull e.np xs = true → renderStmtP cfg e first prev xs = []
  | [], _, _, _ => rfl
  | c :: cs, first, prev, h => by
      rw [allNull, Bool.and_eq_true] at h
      rw [renderStmtP_cons_null cfg e h.1, renderStmtP_allNull cfg e cs _ _ h.2]

/-- the raw previous item seen by what follows `xs` in a statement -/
def lastOr (prev : Option Code) : List Code → Option Code
  | [] => prev
  | c :: cs => lastOr (some c) cs

theorem renderStmtP_append (cfg : Cfg) (e : Env) : ∀ (xs : List Code) (first : Bool) (prev : Option Code)
    (ys : List Code),
    renderStmtP cfg e first prev (xs ++ ys) =
      renderStmtP cfg e first prev xs ++
        renderStmtP cfg e (first && allNull e.np xs) (lastOr prev xs) ys
  | [], first, prev, ys => by rw [allNull, Bool.and_true]; rfl
  | c :: cs, first, prev, ys => by
      rw [List.cons_append, allNull, lastOr]
      cases h : isNull e.np c
      · rw [renderStmtP_cons cfg e h, renderStmtP_cons cfg e h, renderStmtP_append cfg e cs, Bool.false_and,
          Bool.and_false]
        simp only [List.append_assoc]
      · rw [renderStmtP_cons_null cfg e h, renderStmtP_cons_null cfg e h, renderStmtP_append cfg e cs,
          Bool.true_and]

mutual
/-- items that are null whatever the file: nil, `Null()`, statements and delimiter-less groups
    made only of such items, an empty `Tag`, a Dict whose pairs all have a void side -/
def void : Code → Bool
  | .nilc => true
  | .tok .null _ => true
  | .tok _ _ => false
  | .lit _ => false
  | .group g items => g.opn == [] && g.cls == [] && voids items
  | .stmt items => voids items
  | .dict ps => voidPairs ps
  | .tag items => items.isEmpty
  | .comment _ => false
def voids : List Code → Bool
  | [] => true
  | c :: cs => void c && voids cs
def voidPairs : List (Code × Code) → Bool
  | [] => true
  | (k, v) :: ps => (void k || void v) && voidPairs ps
end

mutual
theorem void_isNull (np : Str → Bool) : ∀ c, void c = true → isNull np c = true
  | .nilc, _ | .tok .null _, _ => rfl
  | .tok .pkg _, h | .tok .ident _, h | .tok .kw _, h | .tok .op _, h | .tok .delim _, h | .tok .layout _, h => by
      cases h
  | .lit _, h | .comment _, h => by cases h
  | .group g items, h => by
      rw [void, Bool.and_eq_true] at h
      rw [isNull, Bool.and_eq_true]
      exact ⟨h.1, voids_allNull np items h.2⟩
  | .stmt items, h => voids_allNull np items h
  | .dict ps, h => voidPairs_dictNull np ps h
  | .tag items, h => h

theorem voids_allNull (np : Str → Bool) : ∀ cs, voids cs = true → allNull np cs = true
  | [], _ => rfl
  | c :: cs, h => by
      rw [voids, Bool.and_eq_true] at h
      rw [allNull, Bool.and_eq_true]
      exact ⟨void_isNull np c h.1, voids_allNull np cs h.2⟩

theorem voidPairs_dictNull (np : Str → Bool) : ∀ ps, voidPairs ps = true → dictNull np ps = true
  | [], _ => rfl
  | (k, v) :: ps, h => by
      rw [voidPairs, Bool.and_eq_true, Bool.or_eq_true] at h
      rw [dictNull, Bool.and_eq_true, Bool.or_eq_true]
      exact ⟨h.1.imp (void_isNull np k) (void_isNull np v), voidPairs_dictNull np ps h.2⟩
end

theorem render_insert_void (cfg : Cfg) (e : Env) (prev : Option Code) (g : GInfo) (xs ys : List Code) (v : Code)
    (hv : void v = true) :
    renderP cfg e prev (.group g (xs ++ v :: ys)) = renderP cfg e prev (.group g (xs ++ ys)) :=
  render_same_kept cfg e prev g _ _ (by simp [List.filter_append, void_isNull e.np v hv])

end Code
