import Lean.Meta.Tactic.Simp.RegisterCommand
/-- the builder's lookups `grp api`, `tokc api`, `idTok`, `opTok` with the table entries substituted -/
register_simp_attr looked_up
/-- `isNull` / `allNull` of the items the builder produces -/
register_simp_attr nonnull
/-- `noDict` / `noDicts` of the constructors the builder uses -/
register_simp_attr nodict
