import JenVerif.Lemmas.PrinterEq.Tables
/-
  The documented builders never produce the misuse "Dict beside other items": a built tree holds no
  `Dict` at all (`noDict`), by induction over the syntax with the simp set `nodict`.
-/
namespace PrinterEq
open Code GoSyn

mutual
/-- no `Dict` anywhere in the tree -/
def noDict : Code → Bool
  | .dict _ => false
  | .group _ items => noDicts items
  | .stmt items => noDicts items
  | _ => true
def noDicts : List Code → Bool
  | [] => true
  | c :: cs => noDict c && noDicts cs
end

theorem noDicts_append : ∀ xs ys : List Code, noDicts (xs ++ ys) = (noDicts xs && noDicts ys)
  | [], ys => by simp [noDicts]
  | x :: xs, ys => by simp [noDicts, noDicts_append xs ys, Bool.and_assoc]

theorem isDict_of_noDict {c : Code} (h : noDict c = true) : isDict c = false := by
  cases c <;> simp_all [noDict, isDict]

mutual
theorem misuse_of_noDict (np : Str → Bool) : ∀ c : Code, noDict c = true → misuse np c = false
  | .group g items, h => by
      simp only [noDict] at h
      simp only [misuse]
      split
      · rfl
      · exact misuseItems_of_noDicts np _ items h
  | .stmt items, h => by
      simp only [noDict] at h
      simp only [misuse]
      exact misuseList_of_noDicts np items h
  | .dict _, h => by simp [noDict] at h
  | .nilc, _ | .tok _ _, _ | .lit _, _ | .tag _, _ | .comment _, _ => by simp [misuse]

theorem misuseItems_of_noDicts (np : Str → Bool) (b : Bool) : ∀ cs : List Code, noDicts cs = true →
    misuseItems np b cs = false
  | [], _ => by simp [misuseItems]
  | c :: cs, h => by
      simp only [noDicts, Bool.and_eq_true] at h
      simp only [misuseItems]
      split
      · exact misuseItems_of_noDicts np b cs h.2
      · simp [isDict_of_noDict h.1, misuse_of_noDict np c h.1, misuseItems_of_noDicts np b cs h.2]

theorem misuseList_of_noDicts (np : Str → Bool) : ∀ cs : List Code, noDicts cs = true →
    misuseList np cs = false
  | [], _ => by simp [misuseList]
  | c :: cs, h => by
      simp only [noDicts, Bool.and_eq_true] at h
      simp [misuseList, misuse_of_noDict np c h.1, misuseList_of_noDicts np cs h.2]
end

theorem noDict_grp (api : Str) (cs : List Code) : noDict (grp api cs) = noDicts cs := by rw [grp, noDict]
theorem noDict_tokc (api : Str) : noDict (tokc api) = true := rfl
theorem noDict_idTok (s : Str) : noDict (idTok s) = true := rfl
theorem noDict_opTok (s : Str) : noDict (opTok s) = true := rfl
theorem noDict_tok (k : TokKind) (s : Str) : noDict (.tok k s) = true := rfl
theorem noDict_stmt (cs : List Code) : noDict (.stmt cs) = noDicts cs := by rw [noDict]
theorem noDicts_nil : noDicts [] = true := by rw [noDicts]
theorem noDicts_cons (c : Code) (cs : List Code) : noDicts (c :: cs) = (noDict c && noDicts cs) := by rw [noDicts]

theorem noDict_ite (p : Prop) [Decidable p] (x y : Code) :
    noDict (if p then x else y) = if p then noDict x else noDict y := apply_ite ..

theorem noDicts_ite (p : Prop) [Decidable p] (x y : List Code) :
    noDicts (if p then x else y) = if p then noDicts x else noDicts y := apply_ite ..

theorem noDicts_map {α} {f : α → Code} (h : ∀ a, noDict (f a) = true) :
    ∀ xs : List α, noDicts (xs.map f) = true
  | [] => rfl
  | a :: xs => by rw [List.map_cons, noDicts_cons, h a, noDicts_map h xs]; rfl

theorem noDicts_ids (o : List Str) : noDicts (o.map idTok) = true := noDicts_map noDict_idTok o

theorem noDict_idList (names : List Str) : noDict (idList names) = true := by
  rw [idList, noDict_grp]; exact noDicts_map (fun _ => rfl) names

attribute [nodict] noDict_grp noDict_tokc noDict_idTok noDict_opTok noDict_tok noDict_stmt noDicts_nil noDicts_cons
  noDict_ite noDicts_ite noDicts_append noDicts_ids noDict_idList ite_self Bool.and_self

mutual
theorem items_nd (x : Expr) : noDicts (items x) = true := by
  cases x <;> unfold items <;>
    simp only [nodict, items_nd, itemsO_nd, buildEs_nd, buildFs_nd, buildIs_nd, buildSs_nd, itemsR_nd]

theorem itemsO_nd : ∀ o : Option Expr, noDicts (itemsO o) = true
  | none => by rw [itemsO, noDicts]
  | some x => by rw [itemsO, items_nd x]

theorem buildEs_nd : ∀ xs : List Expr, noDicts (buildEs xs) = true
  | [] => by rw [buildEs, noDicts]
  | x :: xs => by simp only [nodict, buildEs, items_nd x, buildEs_nd xs]

theorem itemsF_nd : ∀ f : Field, noDicts (itemsF f) = true
  | .mk names t tg => by simp only [nodict, itemsF, items_nd t]

theorem buildFs_nd : ∀ xs : List Field, noDicts (buildFs xs) = true
  | [] => by rw [buildFs, noDicts]
  | x :: xs => by simp only [nodict, buildFs, itemsF_nd x, buildFs_nd xs]

theorem itemsR_nd (r : Results) : noDicts (itemsR r) = true := by
  cases r <;> rw [itemsR] <;> simp only [nodict, items_nd, buildFs_nd]

theorem itemsI_nd : ∀ x : IElem, noDicts (itemsI x) = true := by
  intro x; cases x <;> rw [itemsI] <;> simp only [nodict, items_nd, buildFs_nd, itemsR_nd]

theorem buildIs_nd : ∀ xs : List IElem, noDicts (buildIs xs) = true
  | [] => by rw [buildIs, noDicts]
  | x :: xs => by simp only [nodict, buildIs, itemsI_nd x, buildIs_nd xs]

theorem itemsS_nd (s : Stmt) : noDicts (itemsS s) = true := by
  cases s <;> unfold itemsS <;>
    simp only [nodict, items_nd, itemsO_nd, buildEs_nd, buildSs_nd, itemsOS_nd, buildCs_nd, buildCCs_nd, itemsS_nd,
      itemsG_nd]

theorem itemsOS_nd : ∀ o : Option Stmt, noDicts (itemsOS o) = true
  | none => by rw [itemsOS, noDicts]
  | some x => by rw [itemsOS, itemsS_nd x]

theorem buildSs_nd : ∀ xs : List Stmt, noDicts (buildSs xs) = true
  | [] => by rw [buildSs, noDicts]
  | x :: xs => by simp only [nodict, buildSs, itemsS_nd x, buildSs_nd xs]

theorem itemsC_nd : ∀ c : Clause, noDicts (itemsC c) = true
  | .mk xs body => by simp only [nodict, itemsC, buildEs_nd xs, buildSs_nd body]

theorem buildCs_nd : ∀ xs : List Clause, noDicts (buildCs xs) = true
  | [] => by rw [buildCs, noDicts]
  | x :: xs => by simp only [nodict, buildCs, itemsC_nd x, buildCs_nd xs]

theorem itemsCC_nd : ∀ c : CommClause, noDicts (itemsCC c) = true
  | .mk comm body => by simp only [nodict, itemsCC, itemsOS_nd comm, buildSs_nd body]

theorem buildCCs_nd : ∀ xs : List CommClause, noDicts (buildCCs xs) = true
  | [] => by rw [buildCCs, noDicts]
  | x :: xs => by simp only [nodict, buildCCs, itemsCC_nd x, buildCCs_nd xs]

theorem itemsSp_nd : ∀ s : Spec, noDicts (itemsSp s) = true
  | .value names t vals => by simp only [nodict, itemsSp, itemsO_nd t, buildEs_nd vals]
  | .type _ tps al t => by simp only [nodict, itemsSp, buildFs_nd tps, items_nd t]

theorem buildSps_nd : ∀ xs : List Spec, noDicts (buildSps xs) = true
  | [] => by rw [buildSps, noDicts]
  | x :: xs => by simp only [nodict, buildSps, itemsSp_nd x, buildSps_nd xs]

theorem itemsG_nd : ∀ d : GenDecl, noDicts (itemsG d) = true
  | .one _ s => by simp only [nodict, itemsG, itemsSp_nd s]
  | .defs _ ss => by simp only [nodict, itemsG, buildSps_nd ss]
end

theorem itemsD_nd : ∀ d : Decl, noDicts (itemsD d) = true
  | .func recv _ tps ps rs body => by
      have hr : noDicts (recv.toList.map fun r => grp b!"Params" [.stmt (itemsF r)]) = true :=
        noDicts_map (fun r => by simp only [nodict, itemsF_nd r]) _
      simp only [nodict, itemsD, hr, buildFs_nd tps, buildFs_nd ps, itemsR_nd rs, buildSs_nd body]
  | .gen d => by rw [itemsD, itemsG_nd d]

/-- the documented builders never produce the misuse "Dict beside other items in Values" -/
theorem build_no_misuse (np : Str → Bool) (x : Expr) : misuse np (build x) = false :=
  misuse_of_noDict np _ (by simp [build, noDict, items_nd x])

theorem buildS_no_misuse (np : Str → Bool) (s : Stmt) : misuse np (buildS s) = false :=
  misuse_of_noDict np _ (by simp [buildS, noDict, itemsS_nd s])

theorem buildD_no_misuse (np : Str → Bool) (d : Decl) : misuse np (buildD d) = false :=
  misuse_of_noDict np _ (by simp [buildD, noDict, itemsD_nd d])

theorem buildFile_no_misuse (np : Str → Bool) (ds : List Decl) : misuse np (buildFile ds) = false := by
  apply misuse_of_noDict
  rw [buildFile, noDict]
  exact noDicts_map (fun d => by rw [buildD, noDict_stmt]; exact itemsD_nd d) ds

end PrinterEq
