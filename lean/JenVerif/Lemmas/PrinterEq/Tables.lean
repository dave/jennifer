import JenVerif.Spec.GoSyn
import JenVerif.Lemmas.ListSem
import JenVerif.Lemmas.PrinterEq.Attr
/-
  What the builder of `Spec/GoSyn` looks up in the regenerated tables, entry by entry (the simp set
  `looked_up`), and the first consequence: every built tree is written, whatever the file.
-/
namespace PrinterEq
open Code GoSyn

/-! ### OBLIGATIONS on the regenerated tables (`Gen.constructs`, `Gen.tokens`)

These break when someone edits an opener, closer, separator or the multi-line flag of a
construct, or the content / kind of a keyword token, in jennifer. -/

theorem ginfo_Qual : ginfo b!"Qual" = Code.qualInfo := by decide
theorem ginfo_Call : ginfo b!"Call" = ⟨b!"call", b!"(", b!")", b!",", false⟩ := by decide
theorem ginfo_Params : ginfo b!"Params" = ⟨b!"params", b!"(", b!")", b!",", false⟩ := by decide
theorem ginfo_Index : ginfo b!"Index" = ⟨b!"index", b!"[", b!"]", b!":", false⟩ := by decide
theorem ginfo_Types : ginfo b!"Types" = ⟨b!"types", b!"[", b!"]", b!",", false⟩ := by decide
theorem ginfo_Parens : ginfo b!"Parens" = ⟨b!"parens", b!"(", b!")", [], false⟩ := by decide
theorem ginfo_Assert : ginfo b!"Assert" = ⟨b!"assert", b!".(", b!")", [], false⟩ := by decide
theorem ginfo_Values : ginfo b!"Values" = ⟨b!"values", b!"{", b!"}", b!",", false⟩ := by decide
theorem ginfo_Map : ginfo b!"Map" = ⟨b!"map", b!"map[", b!"]", [], false⟩ := by decide
theorem ginfo_List : ginfo b!"List" = ⟨b!"list", [], [], b!",", false⟩ := by decide
theorem ginfo_Return : ginfo b!"Return" = ⟨b!"return", b!"return ", [], b!",", false⟩ := by decide
theorem ginfo_If : ginfo b!"If" = ⟨b!"if", b!"if ", [], b!";", false⟩ := by decide
theorem ginfo_For : ginfo b!"For" = ⟨b!"for", b!"for ", [], b!";", false⟩ := by decide
theorem ginfo_Switch : ginfo b!"Switch" = ⟨b!"switch", b!"switch ", [], b!";", false⟩ := by decide
theorem ginfo_Case : ginfo b!"Case" = ⟨b!"case", b!"case ", b!":", b!",", false⟩ := by decide
theorem ginfo_Block : ginfo b!"Block" = ⟨b!"block", b!"{", b!"}", [], true⟩ := by decide
theorem ginfo_Struct : ginfo b!"Struct" = ⟨b!"struct", b!"struct{", b!"}", [], true⟩ := by decide
theorem ginfo_Interface : ginfo b!"Interface" = ⟨b!"interface", b!"interface{", b!"}", [], true⟩ := by decide
theorem ginfo_Defs : ginfo b!"Defs" = ⟨b!"defs", b!"(", b!")", [], true⟩ := by decide

theorem tokEntry_Dot : tokEntry b!"Dot" = (.delim, b!".") := by decide
theorem tokEntry_Empty : tokEntry b!"Empty" = (.op, []) := by decide
theorem tokEntry_Line : tokEntry b!"Line" = (.layout, b!"\n") := by decide
theorem tokEntry_Func : tokEntry b!"Func" = (.kw, b!"func") := by decide
theorem tokEntry_Type : tokEntry b!"Type" = (.kw, b!"type") := by decide
theorem tokEntry_Var : tokEntry b!"Var" = (.kw, b!"var") := by decide
theorem tokEntry_Const : tokEntry b!"Const" = (.kw, b!"const") := by decide
theorem tokEntry_Chan : tokEntry b!"Chan" = (.kw, b!"chan") := by decide
theorem tokEntry_Else : tokEntry b!"Else" = (.kw, b!"else") := by decide
theorem tokEntry_Range : tokEntry b!"Range" = (.kw, b!"range") := by decide
theorem tokEntry_Select : tokEntry b!"Select" = (.kw, b!"select") := by decide
theorem tokEntry_Go : tokEntry b!"Go" = (.kw, b!"go") := by decide
theorem tokEntry_Defer : tokEntry b!"Defer" = (.kw, b!"defer") := by decide
theorem tokEntry_Default : tokEntry b!"Default" = (.kw, b!"default") := by decide
theorem tokEntry_Break : tokEntry b!"Break" = (.kw, b!"break") := by decide
theorem tokEntry_Continue : tokEntry b!"Continue" = (.kw, b!"continue") := by decide
theorem tokEntry_Goto : tokEntry b!"Goto" = (.kw, b!"goto") := by decide
theorem tokEntry_Fallthrough : tokEntry b!"Fallthrough" = (.kw, b!"fallthrough") := by decide
theorem dynKind_Id : dynKind b!"Id" = .ident := by decide
theorem dynKind_Op : dynKind b!"Op" = .op := by decide
theorem dynKind_Dot : dynKind b!"Dot" = .ident := by decide

theorem BranchTok.entry : ∀ t : BranchTok, tokEntry t.api = (.kw, t.text) ∧ (t.text == b!"default") = false
  | .brk => ⟨tokEntry_Break, rfl⟩
  | .cont => ⟨tokEntry_Continue, rfl⟩
  | .goto => ⟨tokEntry_Goto, rfl⟩
  | .fallthrough => ⟨tokEntry_Fallthrough, rfl⟩

theorem DeclTok.entry : ∀ t : DeclTok, tokEntry t.api = (.kw, t.text) ∧ (t.text == b!"default") = false
  | .var => ⟨tokEntry_Var, rfl⟩
  | .const => ⟨tokEntry_Const, rfl⟩
  | .type => ⟨tokEntry_Type, rfl⟩

theorem tokc_Empty : tokc b!"Empty" = Code.empty := by rw [tokc, tokEntry_Empty]; rfl

theorem grp_Qual (cs : List Code) : grp b!"Qual" cs = .group ⟨b!"qual", [], [], b!".", false⟩ cs := by
  rw [grp, ginfo_Qual]; rfl

theorem grp_Call (cs : List Code) : grp b!"Call" cs = .group ⟨b!"call", b!"(", b!")", b!",", false⟩ cs := by
  rw [grp, ginfo_Call]

theorem grp_Params (cs : List Code) : grp b!"Params" cs = .group ⟨b!"params", b!"(", b!")", b!",", false⟩ cs := by
  rw [grp, ginfo_Params]

theorem grp_Index (cs : List Code) : grp b!"Index" cs = .group ⟨b!"index", b!"[", b!"]", b!":", false⟩ cs := by
  rw [grp, ginfo_Index]

theorem grp_Types (cs : List Code) : grp b!"Types" cs = .group ⟨b!"types", b!"[", b!"]", b!",", false⟩ cs := by
  rw [grp, ginfo_Types]

theorem grp_Parens (cs : List Code) : grp b!"Parens" cs = .group ⟨b!"parens", b!"(", b!")", [], false⟩ cs := by
  rw [grp, ginfo_Parens]

theorem grp_Assert (cs : List Code) : grp b!"Assert" cs = .group ⟨b!"assert", b!".(", b!")", [], false⟩ cs := by
  rw [grp, ginfo_Assert]

theorem grp_Values (cs : List Code) : grp b!"Values" cs = .group ⟨b!"values", b!"{", b!"}", b!",", false⟩ cs := by
  rw [grp, ginfo_Values]

theorem grp_Map (cs : List Code) : grp b!"Map" cs = .group ⟨b!"map", b!"map[", b!"]", [], false⟩ cs := by
  rw [grp, ginfo_Map]

theorem grp_List (cs : List Code) : grp b!"List" cs = .group ⟨b!"list", [], [], b!",", false⟩ cs := by
  rw [grp, ginfo_List]

theorem grp_Return (cs : List Code) : grp b!"Return" cs = .group ⟨b!"return", b!"return ", [], b!",", false⟩ cs := by
  rw [grp, ginfo_Return]

theorem grp_If (cs : List Code) : grp b!"If" cs = .group ⟨b!"if", b!"if ", [], b!";", false⟩ cs := by
  rw [grp, ginfo_If]

theorem grp_For (cs : List Code) : grp b!"For" cs = .group ⟨b!"for", b!"for ", [], b!";", false⟩ cs := by
  rw [grp, ginfo_For]

theorem grp_Switch (cs : List Code) : grp b!"Switch" cs = .group ⟨b!"switch", b!"switch ", [], b!";", false⟩ cs := by
  rw [grp, ginfo_Switch]

theorem grp_Case (cs : List Code) : grp b!"Case" cs = .group ⟨b!"case", b!"case ", b!":", b!",", false⟩ cs := by
  rw [grp, ginfo_Case]

theorem grp_Block (cs : List Code) : grp b!"Block" cs = .group ⟨b!"block", b!"{", b!"}", [], true⟩ cs := by
  rw [grp, ginfo_Block]

theorem grp_Struct (cs : List Code) : grp b!"Struct" cs = .group ⟨b!"struct", b!"struct{", b!"}", [], true⟩ cs := by
  rw [grp, ginfo_Struct]

theorem grp_Interface (cs : List Code) :
    grp b!"Interface" cs = .group ⟨b!"interface", b!"interface{", b!"}", [], true⟩ cs := by
  rw [grp, ginfo_Interface]

theorem grp_Defs (cs : List Code) : grp b!"Defs" cs = .group ⟨b!"defs", b!"(", b!")", [], true⟩ cs := by
  rw [grp, ginfo_Defs]

theorem tokc_Dot : tokc b!"Dot" = .tok .delim b!"." := by rw [tokc, tokEntry_Dot]
theorem tokc_Line : tokc b!"Line" = .tok .layout b!"\n" := by rw [tokc, tokEntry_Line]
theorem tokc_Func : tokc b!"Func" = .tok .kw b!"func" := by rw [tokc, tokEntry_Func]
theorem tokc_Type : tokc b!"Type" = .tok .kw b!"type" := by rw [tokc, tokEntry_Type]
theorem tokc_Var : tokc b!"Var" = .tok .kw b!"var" := by rw [tokc, tokEntry_Var]
theorem tokc_Const : tokc b!"Const" = .tok .kw b!"const" := by rw [tokc, tokEntry_Const]
theorem tokc_Chan : tokc b!"Chan" = .tok .kw b!"chan" := by rw [tokc, tokEntry_Chan]
theorem tokc_Else : tokc b!"Else" = .tok .kw b!"else" := by rw [tokc, tokEntry_Else]
theorem tokc_Range : tokc b!"Range" = .tok .kw b!"range" := by rw [tokc, tokEntry_Range]
theorem tokc_Select : tokc b!"Select" = .tok .kw b!"select" := by rw [tokc, tokEntry_Select]
theorem tokc_Go : tokc b!"Go" = .tok .kw b!"go" := by rw [tokc, tokEntry_Go]
theorem tokc_Defer : tokc b!"Defer" = .tok .kw b!"defer" := by rw [tokc, tokEntry_Defer]
theorem tokc_Default : tokc b!"Default" = .tok .kw b!"default" := by rw [tokc, tokEntry_Default]
theorem tokc_Break : tokc b!"Break" = .tok .kw b!"break" := by rw [tokc, tokEntry_Break]
theorem tokc_Continue : tokc b!"Continue" = .tok .kw b!"continue" := by rw [tokc, tokEntry_Continue]
theorem tokc_Goto : tokc b!"Goto" = .tok .kw b!"goto" := by rw [tokc, tokEntry_Goto]
theorem tokc_Fallthrough : tokc b!"Fallthrough" = .tok .kw b!"fallthrough" := by rw [tokc, tokEntry_Fallthrough]
theorem tokc_Empty' : tokc b!"Empty" = .tok .op [] := tokc_Empty
theorem idTok_eq (s : Str) : idTok s = .tok .ident s := by rw [idTok, dynKind_Id]
theorem opTok_eq (s : Str) : opTok s = .tok .op s := by rw [opTok, dynKind_Op]
theorem tokc_branch (t : BranchTok) : tokc t.api = .tok .kw t.text := by rw [tokc, (BranchTok.entry t).1]
theorem tokc_decl (t : DeclTok) : tokc t.api = .tok .kw t.text := by rw [tokc, (DeclTok.entry t).1]

attribute [looked_up] grp_Qual grp_Call grp_Params grp_Index grp_Types grp_Parens grp_Assert grp_Values grp_Map
  grp_List grp_Return grp_If grp_For grp_Switch grp_Case grp_Block grp_Struct grp_Interface grp_Defs tokc_Dot tokc_Line
  tokc_Func tokc_Type tokc_Var tokc_Const tokc_Chan tokc_Else tokc_Range tokc_Select tokc_Go tokc_Defer tokc_Default
  tokc_Break tokc_Continue tokc_Goto tokc_Fallthrough tokc_Empty' idTok_eq opTok_eq dynKind_Dot tokc_branch tokc_decl

/-- unfold the lookups -/
macro "gsimp" "[" ts:Lean.Parser.Tactic.simpLemma,* "]" "at" h:ident : tactic => `(tactic| simp [grp_Qual, grp_Call, grp_Params, grp_Index, grp_Types, grp_Parens, grp_Assert, grp_Values, grp_Map, grp_List, grp_Return, grp_If, grp_For, grp_Switch, grp_Case, grp_Block, grp_Struct, grp_Interface, grp_Defs, tokc_Dot, tokc_Line, tokc_Func, tokc_Type, tokc_Var, tokc_Const, tokc_Chan, tokc_Else, tokc_Range, tokc_Select, tokc_Go, tokc_Defer, tokc_Default, tokc_Break, tokc_Continue, tokc_Goto, tokc_Fallthrough, tokc_Empty', idTok_eq, opTok_eq, dynKind_Dot, $ts,*] at $h:ident)

/-! Every built tree is written (it is not a null item), whatever the file: the items of each construct
hold a token that is no package token, a group with an opener or with such a token, or the items of a
child expression or declaration (`items_nn`, `itemsG_nn`); `nonnull` computes `allNull` down to it. -/

theorem cons_beq_nil (a : UInt8) (s : Str) : (a :: s == []) = false := rfl

theorem allNull_ite (np : Str → Bool) (p : Prop) [Decidable p] (xs ys : List Code) :
    allNull np (if p then xs else ys) = if p then allNull np xs else allNull np ys := apply_ite ..

theorem isNull_ite (np : Str → Bool) (p : Prop) [Decidable p] (x y : Code) :
    isNull np (if p then x else y) = if p then isNull np x else isNull np y := apply_ite ..

attribute [nonnull] allNull allNull_append allNull_ite isNull isNull_ite cons_beq_nil ite_self
  Bool.and_false Bool.false_and Bool.and_true Bool.true_and

theorem items_nn (np : Str → Bool) (x : Expr) : allNull np (items x) = false := by
  cases x <;> unfold items <;> simp only [looked_up, nonnull]

theorem itemsG_nn (np : Str → Bool) (d : GenDecl) : allNull np (itemsG d) = false := by
  cases d <;> rw [itemsG] <;> simp only [looked_up, nonnull]

theorem build_nonNull (np : Str → Bool) (x : Expr) : isNull np (build x) = false := by
  rw [build, isNull, items_nn]

theorem buildG_nonNull (np : Str → Bool) (d : GenDecl) : isNull np (buildG d) = false := by
  rw [buildG, isNull, itemsG_nn]

theorem buildS_nonNull (np : Str → Bool) (s : Stmt) : isNull np (buildS s) = false := by
  cases s <;> rw [buildS, isNull] <;> unfold itemsS <;> simp only [looked_up, nonnull, items_nn, itemsG_nn]

theorem buildF_nonNull (np : Str → Bool) (f : Field) : isNull np (buildF f) = false := by
  cases f; rw [buildF, isNull, itemsF]; simp only [looked_up, nonnull, items_nn]

theorem buildI_nonNull (np : Str → Bool) (x : IElem) : isNull np (buildI x) = false := by
  cases x <;> rw [buildI, isNull, itemsI] <;> simp only [looked_up, nonnull, items_nn]

theorem buildC_nonNull (np : Str → Bool) (c : Clause) : isNull np (buildC c) = false := by
  cases c; rw [buildC, isNull, itemsC]; simp only [looked_up, nonnull]

theorem buildCC_nonNull (np : Str → Bool) (c : CommClause) : isNull np (buildCC c) = false := by
  cases c; rw [buildCC, isNull, itemsCC]; simp only [looked_up, nonnull]

theorem buildD_nonNull (np : Str → Bool) (d : Decl) : isNull np (buildD d) = false := by
  cases d <;> rw [buildD, isNull, itemsD] <;> simp only [looked_up, nonnull, itemsG_nn]

/-- a value spec needs a name (`List()` without items is null) -/
theorem buildSp_nonNull (np : Str → Bool) (s : Spec) (h : wfSp np s = true) : isNull np (buildSp s) = false := by
  cases s <;> rw [buildSp, isNull, itemsSp] <;> simp only [looked_up, nonnull]
  case value names t vals =>
    cases names with
    | nil => simp [wfSp] at h
    | cons n ns => simp only [idList, List.map_cons, looked_up, nonnull]

end PrinterEq
