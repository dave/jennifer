import JenVerif.Spec.GoSyn
/-
  The reference printer `GoSyn.print` alone: its list printers are `List.map`, `Str.join` is
  `List.intercalate`, and so every list-like construct is written item by item, for every arity
  (`print_lists_every_item`).
-/
namespace PrinterEq
open Code GoSyn

theorem join_eq_intercalate (sep : Str) : ∀ xs : List Str, Str.join sep xs = sep.intercalate xs
  | [] => by simp [Str.join, List.intercalate]
  | [x] => by simp [Str.join, List.intercalate]
  | x :: y :: rest => by
      have ih := join_eq_intercalate sep (y :: rest)
      simp only [List.intercalate] at ih
      simp [Str.join, List.intercalate, List.intersperse, ih]

theorem lines_nil : lines [] = [] := rfl

theorem lines_ne_nil {xs : List Str} (h : xs ≠ []) :
    lines xs = b!"\n" ++ (b!"\n" : Str).intercalate xs ++ b!"\n" := by
  cases xs with
  | nil => exact absurd rfl h
  | cons x xs => simp [lines, join_eq_intercalate]

theorem linesOpen_nil : linesOpen [] = [] := rfl

theorem linesOpen_ne_nil {xs : List Str} (h : xs ≠ []) :
    linesOpen xs = b!"\n" ++ (b!"\n" : Str).intercalate xs := by
  cases xs with
  | nil => exact absurd rfl h
  | cons x xs => simp [linesOpen, join_eq_intercalate]

theorem linesOpen_eq_flatten (xs : List Str) : linesOpen xs = (xs.map fun x => b!"\n" ++ x).flatten := by
  cases xs with
  | nil => rfl
  | cons x xs =>
      simp only [linesOpen]
      induction xs generalizing x with
      | nil => simp [Str.join]
      | cons y ys ih =>
          have := ih y
          simp_all [Str.join]

section
variable (e : Env)

/-- a function with the equations of `List.map g` is `List.map g` (the list printers are written out
    in the mutual definition of `print`) -/
theorem eq_map_of_eqns {α β} {f : List α → List β} {g : α → β} (h0 : f [] = [])
    (h1 : ∀ x xs, f (x :: xs) = g x :: f xs) : ∀ xs, f xs = xs.map g
  | [] => h0
  | x :: xs => by rw [h1, eq_map_of_eqns h0 h1 xs, List.map_cons]

theorem printEs_eq_map : ∀ xs : List Expr, printEs e xs = xs.map (print e) :=
  eq_map_of_eqns (by rw [printEs]) fun _ _ => by rw [printEs]

theorem printFs_eq_map : ∀ xs : List Field, printFs e xs = xs.map (printF e) :=
  eq_map_of_eqns (by rw [printFs]) fun _ _ => by rw [printFs]

theorem printIs_eq_map : ∀ xs : List IElem, printIs e xs = xs.map (printI e) :=
  eq_map_of_eqns (by rw [printIs]) fun _ _ => by rw [printIs]

theorem printSs_eq_map : ∀ xs : List Stmt, printSs e xs = xs.map (printS e) :=
  eq_map_of_eqns (by rw [printSs]) fun _ _ => by rw [printSs]

theorem printCs_eq_map : ∀ xs : List Clause, printCs e xs = xs.map (printC e) :=
  eq_map_of_eqns (by rw [printCs]) fun _ _ => by rw [printCs]

theorem printCCs_eq_map : ∀ xs : List CommClause, printCCs e xs = xs.map (printCC e) :=
  eq_map_of_eqns (by rw [printCCs]) fun _ _ => by rw [printCCs]

theorem printSps_eq_map : ∀ xs : List Spec, printSps e xs = xs.map (printSp e) :=
  eq_map_of_eqns (by rw [printSps]) fun _ _ => by rw [printSps]

/-- the reference printer writes every item of every list (a property of `print` alone, nothing of
    jennifer is restated): for each list-like syntactic category the text is
    `open ++ intercalate sep (map print items) ++ close`, for EVERY arity: call arguments, generic
    instantiation, composite literal elements, parameter / result / struct field / type parameter lists,
    interface elements, both sides of an assignment, returned values, block, case expressions and bodies,
    switch / select clauses, value specs, parenthesised declarations, the declarations of a file -/
theorem print_lists_every_item :
    (∀ f args, print e (.call f args) =
      print e f ++ b!" (" ++ (b!"," : Str).intercalate (args.map (print e)) ++ b!")") ∧
    (∀ f args last, print e (.callSpread f args last) =
      print e f ++ b!" (" ++ (b!"," : Str).intercalate (args.map (print e) ++ [print e last ++ b!" ..."]) ++ b!")") ∧
    (∀ x is, print e (.indexList x is) =
      print e x ++ b!" [" ++ (b!"," : Str).intercalate (is.map (print e)) ++ b!"]") ∧
    (∀ t elts, print e (.compositeLit (some t) elts) =
      print e t ++ b!" {" ++ (b!"," : Str).intercalate (elts.map (print e)) ++ b!"}") ∧
    (∀ elts, print e (.compositeLit none elts) =
      b!"{" ++ (b!"," : Str).intercalate (elts.map (print e)) ++ b!"}") ∧
    (∀ ps rs, print e (.funcType ps rs) =
      b!"func (" ++ (b!"," : Str).intercalate (ps.map (printF e)) ++ b!")" ++ printR e rs) ∧
    (∀ ps rs body, print e (.funcLit ps rs body) =
      b!"func (" ++ (b!"," : Str).intercalate (ps.map (printF e)) ++ b!")" ++ printR e rs ++
      b!" {" ++ lines (body.map (printS e)) ++ b!"}") ∧
    (∀ fs, printR e (.fields fs) = b!" (" ++ (b!"," : Str).intercalate (fs.map (printF e)) ++ b!")") ∧
    (∀ fs, print e (.structType fs) = b!"struct{" ++ lines (fs.map (printF e)) ++ b!"}") ∧
    (∀ es, print e (.interfaceType es) = b!"interface{" ++ lines (es.map (printI e)) ++ b!"}") ∧
    (∀ n ns t, printF e (.mk (n :: ns) t none) =
      (b!"," : Str).intercalate (n :: ns) ++ b!" " ++ print e t) ∧
    (∀ lhs op rhs, printS e (.assign lhs op rhs) =
      (b!"," : Str).intercalate (lhs.map (print e)) ++ b!" " ++ op.text ++ b!" " ++
      (b!"," : Str).intercalate (rhs.map (print e))) ∧
    (∀ rs, printS e (.ret rs) = b!"return " ++ (b!"," : Str).intercalate (rs.map (print e))) ∧
    (∀ body, printS e (.block body) = b!"{" ++ lines (body.map (printS e)) ++ b!"}") ∧
    (∀ x xs body, printC e (.mk (x :: xs) body) =
      b!"case " ++ (b!"," : Str).intercalate ((x :: xs).map (print e)) ++ b!": " ++
      linesOpen (body.map (printS e))) ∧
    (∀ body, printC e (.mk [] body) = b!"default: " ++ linesOpen (body.map (printS e))) ∧
    (∀ tg cls, printS e (.switch none (some tg) cls) =
      b!"switch " ++ print e tg ++ b!" {" ++ lines (cls.map (printC e)) ++ b!"}") ∧
    (∀ cls, printS e (.select cls) = b!"select {" ++ lines (cls.map (printCC e)) ++ b!"}") ∧
    (∀ names t v vs, printSp e (.value names (some t) (v :: vs)) =
      (b!"," : Str).intercalate names ++ b!" " ++ print e t ++ b!" = " ++
      (b!"," : Str).intercalate ((v :: vs).map (print e))) ∧
    (∀ tk ss, printG e (.defs tk ss) = tk.text ++ b!" (" ++ lines (ss.map (printSp e)) ++ b!")") ∧
    (∀ name ps rs body, printD e (.func none name [] ps rs body) =
      b!"func " ++ name ++ b!" (" ++ (b!"," : Str).intercalate (ps.map (printF e)) ++ b!")" ++
      printR e rs ++ b!" {" ++ lines (body.map (printS e)) ++ b!"}") ∧
    (∀ ds, printFile e ds = linesOpen (ds.map (printD e))) := by
  simp [print, printF, printR, printS, printC, printSp, printG, printD, printO, printRecv, printFile, spaceAtom,
      printEs_eq_map, printFs_eq_map, printIs_eq_map, printSs_eq_map, printCs_eq_map, printCCs_eq_map,
      printSps_eq_map, join_eq_intercalate]

end

end PrinterEq
