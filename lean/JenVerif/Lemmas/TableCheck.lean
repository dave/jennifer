/-
  Obligations on the regenerated tables (`Gen.api`, `Gen.constructs`, `Gen.stdHints`) are closed by
  kernel evaluation, so the form in which they are evaluated decides what a check costs.

  "Every entry has a partner in the same table unless `q` excuses it",
  `l.all (fun d => q d || l.any (r d))`, searches the table from its head for every entry: as many
  comparisons as there are pairs.  `anyFrom` is EQUAL to it (`anyFrom_eq`) and looks for the partner
  of each entry from where the partner of the previous one was found; only when it is not ahead does
  it search the whole table.  The translator sorts `Gen.api` by name, then receiver, so partners
  come in the order of their entries and one pass finds them all; a table in any other order is
  checked by the plain search and proves the same.  The obligations are stated in the plain form
  (`all_or_any_of_anyFrom`).
-/

namespace TableCheck
variable {α : Type}

/-- `ds.all (fun d => l.any (r d))`, searching from the cursor `cur` first -/
def anyFrom (r : α → α → Bool) (l : List α) : List α → List α → Bool
  | [], _ => true
  | d :: ds, cur =>
    match cur.dropWhile (fun x => !r d x) with
    | [] => l.any (r d) && anyFrom r l ds cur
    | x :: cur' => anyFrom r l ds (x :: cur')

theorem anyFrom_eq {r : α → α → Bool} {l : List α} :
    ∀ {ds cur : List α}, (∀ x ∈ cur, x ∈ l) → anyFrom r l ds cur = ds.all (fun d => l.any (r d))
  | [], _, _ => rfl
  | d :: ds, cur, hcur => by
    unfold anyFrom
    split
    · rw [List.all_cons, anyFrom_eq hcur]
    · rename_i x cur' hx
      have hsub : ∀ y ∈ x :: cur', y ∈ l := fun y hy =>
        hcur y ((List.dropWhile_sublist _).subset (hx ▸ hy))
      have hr := List.head?_dropWhile_not (fun x => !r d x) cur
      rw [hx] at hr
      have : l.any (r d) = true :=
        List.any_eq_true.2 ⟨x, hsub x (List.mem_cons_self ..), by simpa using hr⟩
      rw [List.all_cons, this, Bool.true_and, anyFrom_eq hsub]

/-- the form in which the table obligations are stated -/
theorem all_or_any_of_anyFrom {r : α → α → Bool} {q : α → Bool} {l : List α}
    (h : anyFrom r l (l.filter (fun d => !q d)) l = true) :
    l.all (fun d => q d || l.any (r d)) = true := by
  rw [anyFrom_eq (fun _ hx => hx), List.all_filter] at h
  simpa only [Bool.not_not] using h

theorem all_and {l : List α} {f g : α → Bool} :
    l.all (fun d => f d && g d) = (l.all f && l.all g) := by
  induction l with
  | nil => rfl
  | cons a l ih => simp only [List.all_cons, ih, Bool.and_assoc, Bool.and_left_comm]

/-! Distinct keys.  `decide` on `Nodup` compares every pair; a table that comes strictly ascending
   (the translator keeps the source's order, and jen/hints.go is sorted) needs one comparison per
   entry.  The plain evaluation is the fall-back for a table in any other order. -/

def ascending (lt : α → α → Bool) : List α → Bool
  | a :: b :: l => lt a b && ascending lt (b :: l)
  | _ => true

theorem pairwise_of_ascending {lt : α → α → Bool}
    (trans : ∀ a b c, lt a b = true → lt b c = true → lt a c = true) :
    ∀ {l : List α}, ascending lt l = true → l.Pairwise (lt · · = true)
  | [], _ => .nil
  | [_], _ => List.pairwise_singleton ..
  | a :: b :: l, h => by
    rw [ascending, Bool.and_eq_true] at h
    have ih := pairwise_of_ascending trans h.2
    exact .cons (fun c hc => (List.mem_cons.1 hc).elim (· ▸ h.1)
      fun hc => trans _ _ _ h.1 (List.rel_of_pairwise_cons ih hc)) ih

theorem nodup_of_ascending [DecidableEq α] {lt : α → α → Bool} (irrefl : ∀ a, lt a a = false)
    (trans : ∀ a b c, lt a b = true → lt b c = true → lt a c = true) {l : List α}
    (h : (ascending lt l || decide l.Nodup) = true) : l.Nodup := by
  cases ha : ascending lt l
  · simpa [ha] using h
  · exact (pairwise_of_ascending trans ha).imp fun hab e => by rw [e, irrefl] at hab; cases hab

end TableCheck
