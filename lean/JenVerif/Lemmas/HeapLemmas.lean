import JenVerif.Heap
/-
  `Heap` is a finite map; `get`/`set` satisfy the usual law, and `append`, `clone` are `set`s.
-/
namespace Heap

theorem get_set (h : Heap) (r q : Nat) (xs : List HCode) :
    get (set h r xs) q = if r = q then xs else get h q := by
  induction h with
  | nil => simp [set, get]
  | cons e rest ih =>
    by_cases hr : e.1 = r
    · subst hr; by_cases hq : e.1 = q <;> simp [set, get, hq]
    · by_cases hq : e.1 = q
      · subst hq; simp [set, get, hr, Ne.symm hr]
      · simp [set, get, hr, hq, ih]

@[simp] theorem get_set_self (h : Heap) (r : Nat) (xs : List HCode) : get (set h r xs) r = xs := by
  rw [get_set, if_pos rfl]

theorem get_set_other (h : Heap) (r q : Nat) (xs : List HCode) (hq : q ≠ r) :
    get (set h r xs) q = get h q := by
  rw [get_set, if_neg (Ne.symm hq)]

end Heap
