import JenVerif.Str
/-
  `AList.lookup` / `AList.insert` (the model's Go maps): `lookup_insert` is the equation of a map
  update; the membership facts say that `insert` replaces in place or appends, so that distinct
  keys stay distinct.
-/
namespace AList

theorem lookup_cons {β} (k' : Str) (v' : β) (rest : List (Str × β)) (p : Str) :
    lookup ((k', v') :: rest) p = if k' == p then some v' else lookup rest p := rfl

theorem lookup_insert {β} (m : List (Str × β)) (k : Str) (v : β) (p : Str) :
    lookup (insert m k v) p = if k == p then some v else lookup m p := by
  induction m with
  | nil => rfl
  | cons e rest ih =>
    obtain ⟨k', v'⟩ := e
    by_cases h : k' = k
    · subst h
      simp only [insert, beq_self_eq_true, if_true, lookup_cons]
      split <;> rfl
    · simp only [insert, beq_iff_eq, h, if_false, lookup_cons, ih]
      by_cases hp : k' = p
      · simp [hp, show ¬ k = p from fun e => h (hp.trans e.symm)]
      · simp [hp]

theorem lookup_insert_self {β} (m : List (Str × β)) (k : Str) (v : β) :
    lookup (insert m k v) k = some v := by
  simp [lookup_insert]

theorem lookup_insert_ne {β} (m : List (Str × β)) {k q : Str} (v : β) (h : q ≠ k) :
    lookup (insert m k v) q = lookup m q := by
  simp [lookup_insert, Ne.symm h]

theorem lookup_mem {β} {m : List (Str × β)} {k : Str} {v : β} (h : lookup m k = some v) : (k, v) ∈ m := by
  induction m with
  | nil => cases h
  | cons y m ih =>
    obtain ⟨k0, v0⟩ := y
    rw [lookup_cons] at h
    split at h
    · rename_i hk
      cases h; cases beq_iff_eq.1 hk
      exact List.mem_cons_self
    · exact List.mem_cons_of_mem _ (ih h)

/-- a `getD` lookup that does not look like the default is an entry -/
theorem getD_mem {β} {m : List (Str × β)} {k : Str} {d : β} (P : β → Prop) (hd : ¬ P d)
    (h : P ((lookup m k).getD d)) : (k, (lookup m k).getD d) ∈ m := by
  cases hl : lookup m k with
  | none => rw [hl] at h; exact absurd h hd
  | some v => exact lookup_mem hl

theorem lookup_eq_none {β} (m : List (Str × β)) (k : Str) (h : ∀ x ∈ m, x.1 ≠ k) : lookup m k = none := by
  cases hl : lookup m k with
  | none => rfl
  | some v => exact absurd rfl (h _ (lookup_mem hl))

theorem lookup_of_mem {β} {m : List (Str × β)} (nd : (m.map (·.1)).Nodup) {e : Str × β} (he : e ∈ m) :
    lookup m e.1 = some e.2 := by
  induction m with
  | nil => cases he
  | cons x xs ih =>
    simp only [List.map_cons, List.nodup_cons, List.mem_map, not_exists, not_and] at nd
    rw [lookup_cons]
    rcases List.mem_cons.1 he with rfl | he'
    · simp
    · rw [if_neg (by simpa using Ne.symm (nd.1 e he')), ih nd.2 he']

/-- with distinct keys, what `lookup` finds does not depend on the order of the entries: it finds
    exactly the members (`lookup_mem`, `lookup_of_mem`) -/
theorem lookup_perm {β} {l₁ l₂ : List (Str × β)} (h : l₁.Perm l₂) (nd : (l₁.map (·.1)).Nodup) (p : Str) :
    lookup l₁ p = lookup l₂ p := by
  cases h₂ : lookup l₂ p with
  | some v => exact lookup_of_mem nd (e := (p, v)) (h.mem_iff.2 (lookup_mem h₂))
  | none =>
    cases h₁ : lookup l₁ p with
    | none => rfl
    | some v =>
      rw [lookup_of_mem ((h.map _).nodup_iff.1 nd) (e := (p, v)) (h.mem_iff.1 (lookup_mem h₁))] at h₂
      cases h₂

theorem eq_of_key_eq {α κ : Type _} {key : α → κ} {l : List α} (nd : (l.map key).Nodup)
    {a b : α} (ha : a ∈ l) (hb : b ∈ l) (hk : key a = key b) : a = b :=
  have p := List.pairwise_map.1 nd
  List.Pairwise.forall_of_forall_of_flip (R := fun a b => key a = key b → a = b)
    (fun _ _ _ => rfl) (p.imp fun h e => absurd e h) (p.imp fun h e => absurd e.symm h) ha hb hk

theorem mem_insert {β} {m : List (Str × β)} {k : Str} {v : β} {x : Str × β}
    (h : x ∈ insert m k v) : x = (k, v) ∨ x ∈ m := by
  induction m with
  | nil => exact Or.inl (List.mem_singleton.1 h)
  | cons y m ih =>
    simp only [insert] at h
    split at h
    · exact (List.mem_cons.1 h).imp_right (List.mem_cons_of_mem _)
    · rcases List.mem_cons.1 h with h | h
      · exact Or.inr (h ▸ List.mem_cons_self)
      · exact (ih h).imp_right (List.mem_cons_of_mem _)

theorem forall_mem_insert {β} {m : List (Str × β)} {k : Str} {v : β} {P : Str → β → Prop}
    (hm : ∀ q e, (q, e) ∈ m → P q e) (hk : P k v) : ∀ q e, (q, e) ∈ insert m k v → P q e :=
  fun q e h => (mem_insert h).elim (fun e' => by cases e'; exact hk) (hm q e)

theorem mem_insert_self {β} (m : List (Str × β)) (k : Str) (v : β) : (k, v) ∈ insert m k v :=
  lookup_mem (lookup_insert_self m k v)

theorem insert_fresh {β} (m : List (Str × β)) (k : Str) (v : β) (h : k ∉ m.map (·.1)) :
    insert m k v = m ++ [(k, v)] := by
  induction m with
  | nil => rfl
  | cons e es ih =>
    simp only [List.map_cons, List.mem_cons, not_or] at h
    simp only [insert, beq_iff_eq, Ne.symm h.1, if_false, ih h.2, List.cons_append]

theorem keys_insert_nodup {β} (m : List (Str × β)) (k : Str) (v : β) (h : (m.map (·.1)).Nodup) :
    ((insert m k v).map (·.1)).Nodup := by
  induction m with
  | nil => simp [insert]
  | cons y m ih =>
    simp only [List.map_cons, List.nodup_cons] at h
    simp only [insert]
    split
    · rename_i hk
      simpa [beq_iff_eq.1 hk] using h
    · rename_i hk
      refine List.nodup_cons.2 ⟨fun hmem => ?_, ih h.2⟩
      obtain ⟨x, hx, hx1⟩ := List.mem_map.1 hmem
      rcases mem_insert hx with rfl | e
      · exact hk (beq_iff_eq.2 hx1.symm)
      · exact h.1 (List.mem_map.2 ⟨x, e, hx1⟩)

end AList
