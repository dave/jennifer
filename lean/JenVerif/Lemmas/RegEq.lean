import JenVerif.Render
import JenVerif.Lemmas.RegistryInv
/-
  What the registry reads of a file state.  (What it writes is `RegistryInv.register_writes`.)
-/
namespace Registry
open RegistryInv

/-- the registry cannot tell `f₁` from `f₂`: it reads `path`, `imports` and `pfx`, and the hint
    table only through `lookupHint` -/
structure RegEq (f₁ f₂ : FileS) : Prop where
  path : f₁.path = f₂.path
  imports : f₁.imports = f₂.imports
  pfx : f₁.pfx = f₂.pfx
  hint : ∀ p, lookupHint f₁ p = lookupHint f₂ p

namespace RegEq
variable {f₁ f₂ : FileS} (h : RegEq f₁ f₂)
include h

theorem lookupImp (p : Str) : lookupImp f₁ p = lookupImp f₂ p := by
  simp only [Registry.lookupImp, h.imports]

theorem isReg (p : Str) : isReg f₁ p = isReg f₂ p := by
  simp only [Registry.isReg, h.lookupImp]

theorem isLocal (p : Str) : isLocal f₁ p = isLocal f₂ p := by
  simp only [Registry.isLocal, h.path]

theorem isDotImport (p : Str) : isDotImport f₁ p = isDotImport f₂ p := by
  simp only [Registry.isDotImport, h.isReg, h.lookupImp, h.hint]

theorem np : f₁.np = f₂.np := by
  funext p; simp only [FileS.np, h.isDotImport, h.isLocal]

theorem isValidAlias (cfg : Cfg) (a : Str) : isValidAlias cfg f₁ a = isValidAlias cfg f₂ a := by
  simp only [Registry.isValidAlias, h.imports]

theorem prefixed (n : Str) (al : Bool) : prefixed f₁ n al = prefixed f₂ n al := by
  simp only [Registry.prefixed, h.pfx]

theorem acceptable (cfg : Cfg) (n : Str) (al : Bool) (i : Nat) :
    acceptable cfg f₁ n al i = acceptable cfg f₂ n al i := by
  simp only [Registry.acceptable, h.isValidAlias, h.prefixed]

theorem uniqLoop (cfg : Cfg) (n : Str) (al : Bool) (fuel i : Nat) :
    uniqLoop cfg f₁ n al fuel i = uniqLoop cfg f₂ n al fuel i := by
  induction fuel generalizing i with
  | zero => rfl
  | succ k ih => simp only [Registry.uniqLoop, h.acceptable, ih]

theorem chooseDef (cfg : Cfg) (p : Str) : chooseDef cfg f₁ p = chooseDef cfg f₂ p := by
  simp only [Registry.chooseDef, Registry.chooseBase, Registry.uniqFuel, h.hint, h.uniqLoop, h.imports, h.prefixed]

theorem register (cfg : Cfg) (p : Str) :
    (register cfg f₁ p).1 = (register cfg f₂ p).1 ∧
    (register cfg f₁ p).2.imports = (register cfg f₂ p).2.imports := by
  rcases register_cases cfg f₂ p with ⟨h1, e⟩ | ⟨h1, h2, e⟩ | ⟨h1, h2, e⟩ <;> rw [e]
  · rw [register_local (h.isLocal p ▸ h1)]; exact ⟨rfl, h.imports⟩
  · rw [register_reg (h.isLocal p ▸ h1) (h.isReg p ▸ h2), h.lookupImp]; exact ⟨rfl, h.imports⟩
  · rw [register_fresh (h.isLocal p ▸ h1) (h.isReg p ▸ h2)]
    simp only [newDef, h.chooseDef, h.imports, and_self]

end RegEq

end Registry
