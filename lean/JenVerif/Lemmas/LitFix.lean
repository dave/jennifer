import JenVerif.Lemmas.LitRT
/-
  jennifer's float64 fix-up seen on the parts of a `%g` text.  `floatFix` maps a G-shaped text to
  a G-shaped text that has a fraction or an exponent (`fixParts`).  The rest are facts of `GoNum`
  alone: such a text is a Go float literal, no float literal is an integer literal, and a trailing
  zero of the fraction does not change the value.
-/
namespace LitFix
open GoNum LitRT

def fixParts (p : GParts) : GParts :=
  match p.fp, p.ex with
  | none, none => { p with fp := some b!"0" }
  | _, _ => p

theorem fixParts_neg (p : GParts) : (fixParts p).neg = p.neg := by
  unfold fixParts; split <;> rfl

theorem fixParts_wf {p : GParts} (h : p.wf = true) : (fixParts p).wf = true := by
  unfold fixParts; split
  · next h1 h2 =>
    simp only [GParts.wf, h1, h2, GParts.fracWf, GParts.expWf, Bool.and_true] at h ⊢
    rw [h]; rfl
  · exact h

theorem fixParts_marked (p : GParts) : (fixParts p).fp ≠ none ∨ (fixParts p).ex ≠ none := by
  obtain ⟨neg, ip, fp, ex⟩ := p
  cases fp with
  | some f => exact Or.inl nofun
  | none => cases ex with
    | some nd => exact Or.inr nofun
    | none => exact Or.inl nofun

theorem floatFix_body {p : GParts} (h : p.wf = true) : Lit.floatFix p.body = (fixParts p).body := by
  obtain ⟨-, hdig, -, -⟩ := wf_parts h
  obtain ⟨neg, ip, fp, ex⟩ := p
  cases fp with
  | some f =>
    exact floatFix_of_mem _ (Or.inl (List.mem_append_right ip (List.mem_cons_self ..)))
  | none => cases ex with
    | some nd =>
      exact floatFix_of_mem _ (Or.inr (List.mem_append_right ip (List.mem_cons_self ..)))
    | none =>
      have hnm := not_mem_of_digits hdig
      show Lit.floatFix (ip ++ []) = ip ++ (b!".0" ++ [])
      rw [List.append_nil, List.append_nil]
      exact floatFix_of_not_mem ip hnm.1 hnm.2

theorem floatFix_text {p : GParts} (h : p.wf = true) : Lit.floatFix p.text = (fixParts p).text := by
  rw [GParts.text, GParts.text, fixParts_neg, ← floatFix_body h]
  unfold GParts.signText
  cases p.neg with
  | true => exact floatFix_minus _
  | false => rfl

theorem isFloatLit_append {ip rest : Str} (hip : ip.all isDigit = true)
    (h : rest.takeWhile isDigit = []) :
    isFloatLit (ip ++ rest) = isFloatTail ip rest := by
  rw [isFloatLit, (span_digits hip h).1, (span_digits hip h).2]

theorem isExponent_expText {n : Bool} {d : Str} (h : GParts.expWf (some (n, d)) = true) :
    isExponent (GParts.expText (some (n, d))) = true := by
  simp only [GParts.expWf, Bool.and_eq_true, decide_eq_true_eq] at h
  have hne : d.isEmpty = false := by cases d with
    | nil => exact absurd h.1 (by decide)
    | cons _ _ => rfl
  -- after `e` and the sign come the digits `d`
  have hd : (!d.isEmpty && d.all isDigit) = true := by rw [hne, h.2]; rfl
  cases n <;> exact hd

theorem isFloatLit_body {q : GParts} (h : q.wf = true) (hm : q.fp ≠ none ∨ q.ex ≠ none) :
    isFloatLit q.body = true := by
  obtain ⟨hip, hdig, hfp, hex⟩ := wf_parts h
  obtain ⟨neg, ip, fp, ex⟩ := q
  simp only at hip
  rw [GParts.body, isFloatLit_append hdig (stops_tail fp ex)]
  cases fp with
  | some f =>
    simp only [GParts.fracWf, Bool.and_eq_true] at hfp
    obtain ⟨h3, h4⟩ := span_digits hfp.2 (stops_expText ex)
    simp only [GParts.fracText, List.cons_append, isFloatTail, h3, h4, hip]
    cases ex with
    | none => rfl
    | some nd => obtain ⟨n, d⟩ := nd; rw [isExponent_expText hex]; rfl
  | none =>
    cases ex with
    | none => simp at hm
    | some nd =>
      obtain ⟨n, d⟩ := nd
      -- no fraction: the tail starts with `e`
      show (!ip.isEmpty && isExponent (GParts.expText (some (n, d)))) = true
      rw [hip, isExponent_expText hex]; rfl

theorem float64_is_float_literal {t : Str} (h : GShape t) :
    GoNum.isFloatLit (Lit.floatFix (stripMinus t)) = true := by
  obtain ⟨p, hwf, rfl⟩ := h
  rw [stripMinus_text hwf, floatFix_body hwf]
  exact isFloatLit_body (fixParts_wf hwf) (fixParts_marked p)

theorem decFold_some_all {s : Str} {a v : Nat} (h : decFold a s = some v) :
    s.all isDigit = true := by
  induction s generalizing a with
  | nil => rfl
  | cons c cs ih =>
    simp only [decFold] at h
    split at h
    · next hc => rw [List.all_cons, hc, ih h]; rfl
    · cases h

theorem readDec_some_all {s : Str} {v : Nat} (h : readDec s = some v) : s.all isDigit = true := by
  unfold readDec at h
  split at h
  · cases h
  · split at h
    · cases h
    · exact decFold_some_all h

theorem isIntLit_of_isFloatLit {s : Str} (h : isFloatLit s = true) : isIntLit s = false := by
  unfold isIntLit
  cases hd : readDec s with
  | some v =>
    -- all digits: nothing is left for a fraction or an exponent
    have hs := span_digits (rest := []) (readDec_some_all hd) rfl
    rw [List.append_nil] at hs
    rw [isFloatLit, hs.1, hs.2] at h
    simp [isFloatTail, isExponent] at h
  | none =>
    cases hx : readHex s with
    | none => rfl
    | some v =>
      -- `0x…`: the digits end at the `x`, which starts neither a fraction nor an exponent
      unfold readHex at hx
      split at hx
      · next x d rest =>
        split at hx
        · next hxx =>
          simp at hxx
          rcases hxx with rfl | rfl <;> cases h
        · cases hx
      · cases hx

theorem floatValue_text {p : GParts} (h : p.wf = true) :
    floatValue p.text = floatBody p.neg p.body :=
  sign_match floatBody h

theorem digitsVal_snoc (s : Str) (c : UInt8) :
    digitsVal (s ++ [c]) = digitsVal s * 10 + digitVal c := by
  simp [digitsVal, List.foldl_append]

theorem mkFVal_snoc_zero (neg : Bool) (ip fp : Str) (ex : Int) :
    mkFVal neg ip (fp ++ [48]) ex = mkFVal neg ip fp ex := by
  have he : ex - Int.ofNat (fp.length + 1) + 1 = ex - Int.ofNat fp.length := by
    show ex - (Int.ofNat fp.length + 1) + 1 = _
    rw [← Int.sub_sub, Int.sub_add_cancel]
  unfold mkFVal
  rw [← List.append_assoc, digitsVal_snoc, show digitVal 48 = 0 from rfl, Nat.add_zero,
    normalize_mul_ten, List.length_append, List.length_singleton, he]

theorem floatBody_dot_zero (neg : Bool) {ip : Str} (hip : ip.isEmpty = false)
    (hdig : ip.all isDigit = true) :
    floatBody neg (ip ++ b!".0") = floatBody neg ip := by
  obtain ⟨h1, h2⟩ := span_digits (rest := b!".0") hdig rfl
  obtain ⟨h3, h4⟩ := span_digits (rest := []) hdig rfl
  rw [List.append_nil] at h3 h4
  unfold floatBody
  rw [h1, h2, h3, h4, show splitFrac b!".0" = ([] ++ [48], []) from rfl,
    show splitFrac [] = ([], []) from rfl]
  simp only [hip, Bool.false_and, Bool.false_eq_true, if_false, readExp, mkFVal_snoc_zero]

theorem floatValue_fixParts {p : GParts} (h : p.wf = true) :
    floatValue (fixParts p).text = floatValue p.text := by
  rw [floatValue_text (fixParts_wf h), floatValue_text h, fixParts_neg]
  obtain ⟨hne, hdig, -, -⟩ := wf_parts h
  obtain ⟨neg, ip, fp, ex⟩ := p
  cases fp with
  | some f => rfl
  | none => cases ex with
    | some nd => rfl
    | none =>
      show floatBody neg (ip ++ (b!".0" ++ [])) = floatBody neg (ip ++ [])
      rw [List.append_nil, List.append_nil]
      exact floatBody_dot_zero neg hne hdig

theorem floatFix_value {t : Str} (h : GShape t) :
    GoNum.floatValue (Lit.floatFix t) = GoNum.floatValue t := by
  obtain ⟨p, hwf, rfl⟩ := h
  rw [floatFix_text hwf]
  exact floatValue_fixParts hwf

end LitFix
