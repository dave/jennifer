import JenVerif.Quote
/-
  The UTF-8 codec of `Quote`: `decodeRune` and `encodeRune` are mutually inverse.
  A multi-byte sequence is a base-64 numeral whose lead byte carries the first digit and the
  width class. Either function is characterised class by class on the digits, under the same
  constraints (`Digits2` … `Digits4`), so the arithmetic (digits against `/` and `%`) is done on
  `Nat` variables and never inside a proof about bytes.  Namespace `QuoteRT`, with
  `Lemmas/QuoteRT.lean`.
-/
namespace QuoteRT
open Quote

theorem validRune_iff (r : Nat) : validRune r = true ↔ (r < 0xD800 ∨ (0xDFFF < r ∧ r ≤ 0x10FFFF)) := by
  unfold validRune maxRune; simp

theorem ofNat_eq (b : UInt8) (n : Nat) (h : n = b.toNat) : UInt8.ofNat n = b := by
  subst h; exact UInt8.ofNat_toNat

/-- the bound as a numeral, which `omega` reads (`UInt8.size` it does not) -/
theorem toNat_ofNat (n : Nat) (h : n < 256) : (UInt8.ofNat n).toNat = n :=
  UInt8.toNat_ofNat_of_lt' h

/-- two bytes, 0x80 … 0x7FF: a lead digit below 2 would be an overlong form -/
abbrev Digits2 (a b : Nat) : Prop := 2 ≤ a ∧ a < 32 ∧ b < 64

/-- three bytes, 0x800 … 0xFFFF: lead digit 0 with a second digit below 32 is overlong, lead
    digit 13 with a second digit from 32 on is a surrogate half (0xD800 … 0xDFFF) -/
abbrev Digits3 (a b c : Nat) : Prop :=
  a < 16 ∧ b < 64 ∧ c < 64 ∧ (a = 0 → 32 ≤ b) ∧ (a = 13 → b < 32)

/-- four bytes, 0x10000 … 0x10FFFF: lead digit 0 with a second digit below 16 is overlong, lead
    digit 4 with a second digit from 16 on is above `maxRune` -/
abbrev Digits4 (a b c d : Nat) : Prop :=
  a ≤ 4 ∧ b < 64 ∧ c < 64 ∧ d < 64 ∧ (a = 0 → 16 ≤ b) ∧ (a = 4 → b < 16)

/-- the digits of a numeral in base 64 are read off by `/ 64` and `% 64`; `omega` is kept away from
    `/` and `%`, where it is slow -/
theorem div64 (q : Nat) {d : Nat} (h : d < 64) : (q * 64 + d) / 64 = q := by
  rw [Nat.mul_comm, Nat.mul_add_div (by decide), Nat.div_eq_of_lt h, Nat.add_zero]

theorem mod64 (q : Nat) {d : Nat} (h : d < 64) : (q * 64 + d) % 64 = d := by
  rw [Nat.mul_comm, Nat.mul_add_mod, Nat.mod_eq_of_lt h]

theorem base64_3 {a b c n : Nat} (hn : a * 4096 + b * 64 + c = n) (hb : b < 64) (hc : c < 64) :
    n / 4096 = a ∧ n / 64 % 64 = b ∧ n % 64 = c := by
  obtain rfl : n = (a * 64 + b) * 64 + c := by omega
  refine ⟨?_, ?_, mod64 _ hc⟩
  · rw [← Nat.div_div_eq_div_mul _ 64 64, div64 _ hc, div64 _ hb]
  · rw [div64 _ hc, mod64 _ hb]

theorem base64_4 {a b c d n : Nat} (hn : a * 262144 + b * 4096 + c * 64 + d = n) (hb : b < 64)
    (hc : c < 64) (hd : d < 64) :
    n / 262144 = a ∧ n / 4096 % 64 = b ∧ n / 64 % 64 = c ∧ n % 64 = d := by
  obtain rfl : n = ((a * 64 + b) * 64 + c) * 64 + d := by omega
  refine ⟨?_, ?_, ?_, mod64 _ hd⟩
  · rw [← Nat.div_div_eq_div_mul _ 4096 64, ← Nat.div_div_eq_div_mul _ 64 64, div64 _ hd, div64 _ hc,
      div64 _ hb]
  · rw [← Nat.div_div_eq_div_mul _ 64 64, div64 _ hd, div64 _ hc, mod64 _ hb]
  · rw [div64 _ hd, mod64 _ hc]

theorem exists_digit (n : Nat) : ∃ q d, n = q * 64 + d ∧ d < 64 :=
  ⟨n / 64, n % 64, (Nat.div_add_mod' n 64).symm, Nat.mod_lt _ (by decide)⟩

theorem validRune_digits {r : Nat} (hv : validRune r = true) :
    r < 0x80 ∨ (∃ a b, r = a * 64 + b ∧ Digits2 a b) ∨
    (∃ a b c, r = a * 4096 + b * 64 + c ∧ Digits3 a b c) ∨
    ∃ a b c d, r = a * 262144 + b * 4096 + c * 64 + d ∧ Digits4 a b c d := by
  rw [validRune_iff] at hv
  -- digit by digit from the right, as far as the class needs: what is left for `omega` is linear
  obtain ⟨q, d, rfl, hd⟩ := exists_digit r
  by_cases h1 : q * 64 + d < 0x80
  · exact .inl h1
  by_cases h2 : q * 64 + d < 0x800
  · exact .inr (.inl ⟨q, d, rfl, by omega⟩)
  obtain ⟨q, c, rfl, hc⟩ := exists_digit q
  by_cases h3 : (q * 64 + c) * 64 + d < 0x10000
  · exact .inr (.inr (.inl ⟨q, c, d, by omega, by omega⟩))
  obtain ⟨a, b, rfl, hb⟩ := exists_digit q
  exact .inr (.inr (.inr ⟨a, b, c, d, by omega, by omega⟩))

theorem encodeRune_1 (r : Nat) (h : r < 0x80) : encodeRune r = [UInt8.ofNat r] := by
  have hv : validRune r = true := by rw [validRune_iff]; omega
  simp only [encodeRune, hv, if_true, h]

theorem encodeRune_2 (a b : Nat) (h : Digits2 a b) :
    validRune (a * 64 + b) = true ∧
    encodeRune (a * 64 + b) = [UInt8.ofNat (0xC0 + a), UInt8.ofNat (0x80 + b)] := by
  generalize hn : a * 64 + b = n
  have hv : validRune n = true := by rw [validRune_iff]; omega
  have hc : ¬ n < 0x80 ∧ n < 0x800 := by omega
  have hd : n / 64 = a ∧ n % 64 = b := hn ▸ ⟨div64 a h.2.2, mod64 a h.2.2⟩
  exact ⟨hv, by simp only [encodeRune, hv, if_true, hc, if_false, hd]⟩

theorem encodeRune_3 (a b c : Nat) (h : Digits3 a b c) :
    validRune (a * 4096 + b * 64 + c) = true ∧
    encodeRune (a * 4096 + b * 64 + c) =
      [UInt8.ofNat (0xE0 + a), UInt8.ofNat (0x80 + b), UInt8.ofNat (0x80 + c)] := by
  generalize hn : a * 4096 + b * 64 + c = n
  have hv : validRune n = true := by rw [validRune_iff]; omega
  have hc : ¬ n < 0x80 ∧ ¬ n < 0x800 ∧ n < 0x10000 := by omega
  have hd := base64_3 hn h.2.1 h.2.2.1
  exact ⟨hv, by simp only [encodeRune, hv, if_true, hc, if_false, hd]⟩

theorem encodeRune_4 (a b c d : Nat) (h : Digits4 a b c d) :
    validRune (a * 262144 + b * 4096 + c * 64 + d) = true ∧
    encodeRune (a * 262144 + b * 4096 + c * 64 + d) =
      [UInt8.ofNat (0xF0 + a), UInt8.ofNat (0x80 + b), UInt8.ofNat (0x80 + c),
        UInt8.ofNat (0x80 + d)] := by
  generalize hn : a * 262144 + b * 4096 + c * 64 + d = n
  have hv : validRune n = true := by rw [validRune_iff]; omega
  have hc : ¬ n < 0x80 ∧ ¬ n < 0x800 ∧ ¬ n < 0x10000 := by omega
  have hd := base64_4 hn h.2.1 h.2.2.1 h.2.2.2.1
  exact ⟨hv, by simp only [encodeRune, hv, if_true, hc, if_false, hd]⟩

/-- the lower end `lo` of the window for the second byte in `decodeRune`: the general bound `y`,
    raised to `x` for lead byte `c` -/
theorem ite_lo (b c x y : UInt8) (n : Nat) (h : y.toNat ≤ x.toNat) :
    (if (b == c) = true then x else y).toNat ≤ n ↔
      (y.toNat ≤ n ∧ (b.toNat = c.toNat → x.toNat ≤ n)) := by
  by_cases hb : b = c
  · subst hb; simp; omega
  · simp [hb, UInt8.toNat_inj]

/-- the upper end `hi`: the general bound `y`, lowered to `x` for lead byte `c` -/
theorem ite_hi (b c x y : UInt8) (n : Nat) (h : x.toNat ≤ y.toNat) :
    n ≤ (if (b == c) = true then x else y).toNat ↔
      (n ≤ y.toNat ∧ (b.toNat = c.toNat → n ≤ x.toNat)) := by
  by_cases hb : b = c
  · subst hb; simp; omega
  · simp [hb, UInt8.toNat_inj]

theorem decodeRune_1 (b0 : UInt8) (t : Str) (h : b0.toNat < 0x80) :
    decodeRune (b0 :: t) = (b0.toNat, 1) :=
  if_pos (UInt8.lt_iff_toNat_lt.mpr h)

theorem decodeRune_2 (b0 b1 : UInt8) (t : Str) (a b : Nat) (h0 : b0.toNat = 0xC0 + a)
    (h1 : b1.toNat = 0x80 + b) (h : Digits2 a b) :
    decodeRune (b0 :: b1 :: t) = (a * 64 + b, 2) := by
  unfold decodeRune
  simp only [UInt8.lt_iff_toNat_lt, UInt8.le_iff_toNat_le, UInt8.reduceToNat, isCont,
    Bool.and_eq_true, decide_eq_true_eq]
  rw [if_neg (by omega), if_neg (by omega), if_pos (by omega), if_pos (by omega), h0, h1,
    Nat.add_sub_cancel_left, Nat.add_sub_cancel_left]

theorem decodeRune_3 (b0 b1 b2 : UInt8) (t : Str) (a b c : Nat) (h0 : b0.toNat = 0xE0 + a)
    (h1 : b1.toNat = 0x80 + b) (h2 : b2.toNat = 0x80 + c) (h : Digits3 a b c) :
    decodeRune (b0 :: b1 :: b2 :: t) = (a * 4096 + b * 64 + c, 3) := by
  unfold decodeRune
  simp only [UInt8.lt_iff_toNat_lt, UInt8.le_iff_toNat_le, ite_lo, ite_hi, UInt8.reduceToNat,
    Nat.reduceLeDiff, isCont, Bool.and_eq_true, decide_eq_true_eq]
  rw [if_neg (by omega), if_neg (by omega), if_neg (by omega), if_pos (by omega),
    if_pos (by omega), h0, h1, h2, Nat.add_sub_cancel_left, Nat.add_sub_cancel_left,
    Nat.add_sub_cancel_left]

theorem decodeRune_4 (b0 b1 b2 b3 : UInt8) (t : Str) (a b c d : Nat) (h0 : b0.toNat = 0xF0 + a)
    (h1 : b1.toNat = 0x80 + b) (h2 : b2.toNat = 0x80 + c) (h3 : b3.toNat = 0x80 + d)
    (h : Digits4 a b c d) :
    decodeRune (b0 :: b1 :: b2 :: b3 :: t) = (a * 262144 + b * 4096 + c * 64 + d, 4) := by
  unfold decodeRune
  simp only [UInt8.lt_iff_toNat_lt, UInt8.le_iff_toNat_le, ite_lo, ite_hi, UInt8.reduceToNat,
    Nat.reduceLeDiff, isCont, Bool.and_eq_true, decide_eq_true_eq]
  rw [if_neg (by omega), if_neg (by omega), if_neg (by omega), if_neg (by omega),
    if_pos (by omega), if_pos (by omega), h0, h1, h2, h3, Nat.add_sub_cancel_left,
    Nat.add_sub_cancel_left, Nat.add_sub_cancel_left, Nat.add_sub_cancel_left]

theorem encode_decode (r : Nat) (hv : validRune r = true) (more : Str) :
    decodeRune (encodeRune r ++ more) = (r, (encodeRune r).length) := by
  rcases validRune_digits hv with h1 | ⟨a, b, rfl, h⟩ | ⟨a, b, c, rfl, h⟩ | ⟨a, b, c, d, rfl, h⟩
  · have e := toNat_ofNat r (by omega)
    rw [encodeRune_1 r h1]
    exact (decodeRune_1 _ more (e.symm ▸ h1)).trans (by rw [e]; rfl)
  · rw [(encodeRune_2 a b h).2]
    exact decodeRune_2 _ _ more a b (toNat_ofNat _ (by omega)) (toNat_ofNat _ (by omega)) h
  · rw [(encodeRune_3 a b c h).2]
    exact decodeRune_3 _ _ _ more a b c (toNat_ofNat _ (by omega)) (toNat_ofNat _ (by omega))
      (toNat_ofNat _ (by omega)) h
  · rw [(encodeRune_4 a b c d h).2]
    exact decodeRune_4 _ _ _ _ more a b c d (toNat_ofNat _ (by omega)) (toNat_ofNat _ (by omega))
      (toNat_ofNat _ (by omega)) (toNat_ofNat _ (by omega)) h

theorem decodeRune_cons (b0 : UInt8) (rest : Str) :
    decodeRune (b0 :: rest) = (runeError, 1) ∨
      ∃ r t, validRune r = true ∧ b0 :: rest = encodeRune r ++ t := by
  unfold decodeRune
  simp only [UInt8.lt_iff_toNat_lt, UInt8.le_iff_toNat_le, ite_lo, ite_hi, UInt8.reduceToNat,
    Nat.reduceLeDiff, Bool.and_eq_true, decide_eq_true_eq, isCont]
  by_cases h1 : b0.toNat < 0x80
  · refine .inr ⟨b0.toNat, rest, by rw [validRune_iff]; omega, ?_⟩
    rw [encodeRune_1 _ h1, UInt8.ofNat_toNat]; rfl
  rw [if_neg h1]
  by_cases h2 : b0.toNat < 0xC2
  · exact .inl (if_pos h2)
  rw [if_neg h2]
  by_cases h3 : b0.toNat ≤ 0xDF
  · rw [if_pos h3]
    match rest with
    | [] => exact .inl rfl
    | b1 :: t =>
      dsimp only
      split
      · rename_i hc
        obtain ⟨a, ha⟩ := Nat.exists_eq_add_of_le (show 0xC0 ≤ b0.toNat by omega)
        obtain ⟨b, hb⟩ := Nat.exists_eq_add_of_le hc.1
        obtain ⟨hv, he⟩ := encodeRune_2 a b (by omega)
        refine .inr ⟨_, t, hv, ?_⟩
        rw [he, ofNat_eq b0 _ ha.symm, ofNat_eq b1 _ hb.symm]; rfl
      · exact .inl rfl
  rw [if_neg h3]
  by_cases h4 : b0.toNat ≤ 0xEF
  · rw [if_pos h4]
    match rest with
    | [] | [_] => exact .inl rfl
    | b1 :: b2 :: t =>
      dsimp only
      split
      · rename_i hc
        obtain ⟨a, ha⟩ := Nat.exists_eq_add_of_le (Nat.lt_of_not_le h3)
        obtain ⟨b, hb⟩ := Nat.exists_eq_add_of_le hc.1.1.1
        obtain ⟨c, hc'⟩ := Nat.exists_eq_add_of_le hc.2.1
        obtain ⟨hv, he⟩ := encodeRune_3 a b c (by omega)
        refine .inr ⟨_, t, hv, ?_⟩
        rw [he, ofNat_eq b0 _ ha.symm, ofNat_eq b1 _ hb.symm, ofNat_eq b2 _ hc'.symm]; rfl
      · exact .inl rfl
  rw [if_neg h4]
  by_cases h5 : b0.toNat ≤ 0xF4
  · rw [if_pos h5]
    match rest with
    | [] | [_] | [_, _] => exact .inl rfl
    | b1 :: b2 :: b3 :: t =>
      dsimp only
      split
      · rename_i hc
        obtain ⟨a, ha⟩ := Nat.exists_eq_add_of_le (Nat.lt_of_not_le h4)
        obtain ⟨b, hb⟩ := Nat.exists_eq_add_of_le hc.1.1.1.1
        obtain ⟨c, hc'⟩ := Nat.exists_eq_add_of_le hc.1.2.1
        obtain ⟨d, hd⟩ := Nat.exists_eq_add_of_le hc.2.1
        obtain ⟨hv, he⟩ := encodeRune_4 a b c d (by omega)
        refine .inr ⟨_, t, hv, ?_⟩
        rw [he, ofNat_eq b0 _ ha.symm, ofNat_eq b1 _ hb.symm, ofNat_eq b2 _ hc'.symm,
          ofNat_eq b3 _ hd.symm]; rfl
      · exact .inl rfl
  · exact .inl (if_neg h5)

theorem decode_encode (b0 : UInt8) (rest : Str) (r w : Nat)
    (h : decodeRune (b0 :: rest) = (r, w)) (hv : ¬ (w = 1 ∧ r = runeError)) :
    validRune r = true ∧ encodeRune r = (b0 :: rest).take w := by
  rcases decodeRune_cons b0 rest with he | ⟨r', t, hv', hs⟩
  · rw [he] at h; cases h; exact absurd ⟨rfl, rfl⟩ hv
  · rw [hs, encode_decode r' hv' t] at h
    cases h
    rw [hs, List.take_left]
    exact ⟨hv', rfl⟩

/-- the error answer excluded by what a caller sees of the result: the width, or an ASCII value -/
theorem decode_valid (b0 : UInt8) (rest : Str) (r w : Nat)
    (h : decodeRune (b0 :: rest) = (r, w)) (hw : 1 < w ∨ (w = 1 ∧ r < 0x80)) :
    validRune r = true ∧ encodeRune r = (b0 :: rest).take w :=
  decode_encode b0 rest r w h (by unfold runeError; omega)

theorem encodeRune_high (r : Nat) (hv : validRune r = true) (h : 0x80 ≤ r) :
    2 ≤ (encodeRune r).length ∧ ∀ b ∈ encodeRune r, 0x80 ≤ b.toNat := by
  have hb : ∀ n, 0x80 ≤ n → n < 256 → 0x80 ≤ (UInt8.ofNat n).toNat :=
    fun n h1 h2 => (toNat_ofNat n h2).symm ▸ h1
  rcases validRune_digits hv with h1 | ⟨a, b, rfl, hd⟩ | ⟨a, b, c, rfl, hd⟩ | ⟨a, b, c, d, rfl, hd⟩
  · omega
  · rw [(encodeRune_2 a b hd).2]
    simp only [List.mem_cons, List.not_mem_nil, or_false, forall_eq_or_imp, forall_eq]
    exact ⟨Nat.le_refl _, hb _ (by omega) (by omega), hb _ (by omega) (by omega)⟩
  · rw [(encodeRune_3 a b c hd).2]
    simp only [List.mem_cons, List.not_mem_nil, or_false, forall_eq_or_imp, forall_eq]
    exact ⟨by simp, hb _ (by omega) (by omega), hb _ (by omega) (by omega),
      hb _ (by omega) (by omega)⟩
  · rw [(encodeRune_4 a b c d hd).2]
    simp only [List.mem_cons, List.not_mem_nil, or_false, forall_eq_or_imp, forall_eq]
    exact ⟨by simp, hb _ (by omega) (by omega), hb _ (by omega) (by omega),
      hb _ (by omega) (by omega), hb _ (by omega) (by omega)⟩

theorem encodeRune_length_pos (r : Nat) (hv : validRune r = true) : 1 ≤ (encodeRune r).length := by
  by_cases hr : r < 0x80
  · rw [encodeRune_1 r hr]; exact Nat.le_refl _
  · have := (encodeRune_high r hv (by omega)).1; omega

theorem encodeRune_length (r : Nat) (hv : validRune r = true) :
    (encodeRune r).length = 1 ↔ r < 0x80 := by
  refine ⟨fun h => Nat.lt_of_not_le fun hr => ?_, fun h => by rw [encodeRune_1 r h]; rfl⟩
  have := (encodeRune_high r hv hr).1
  omega

/-- the decoding of an encoding is never mistaken for the error answer: U+FFFD itself has width 3 -/
theorem encodeRune_not_error {r : Nat} (hv : validRune r = true) :
    ¬ ((encodeRune r).length == 1 && r == runeError) = true := by
  simp only [Bool.and_eq_true, beq_iff_eq, runeError]
  intro h
  have := (encodeRune_length r hv).mp h.1
  omega

/-- the form in which a function that matches its argument as `c :: u` meets a character -/
theorem encodeRune_cons {r : Nat} (hv : validRune r = true) (t : Str) :
    ∃ c u, encodeRune r ++ t = c :: u ∧ c ∈ encodeRune r ∧
      decodeRune (c :: u) = (r, (encodeRune r).length) ∧ (c :: u).drop (encodeRune r).length = t := by
  obtain ⟨c, u, he⟩ := List.exists_cons_of_length_pos (encodeRune_length_pos r hv)
  have hs : encodeRune r ++ t = c :: (u ++ t) := by rw [he]; rfl
  exact ⟨c, u ++ t, hs, he ▸ List.mem_cons_self, hs ▸ encode_decode r hv t, hs ▸ List.drop_left⟩

theorem encodeRune_ne (r : Nat) (hv : validRune r = true) (k : UInt8) (hk : k.toNat < 0x80)
    (hr : r ≠ k.toNat) : ∀ b ∈ encodeRune r, b ≠ k := by
  intro b hb e
  subst e
  by_cases h : r < 0x80
  · rw [encodeRune_1 r h, List.mem_singleton] at hb
    exact hr (by rw [hb, toNat_ofNat r (by omega)])
  · have := (encodeRune_high r hv (by omega)).2 b hb
    omega

theorem utf8_induction {P : Str → Prop} (nil : P [])
    (stray : ∀ b0 t, decodeRune (b0 :: t) = (runeError, 1) → P t → P (b0 :: t))
    (char : ∀ r t, validRune r = true → P t → P (encodeRune r ++ t)) : ∀ s, P s := by
  suffices h : ∀ n (s : Str), s.length ≤ n → P s from fun s => h _ s (Nat.le_refl _)
  intro n
  induction n with
  | zero => intro s hs; exact List.eq_nil_of_length_eq_zero (Nat.le_zero.mp hs) ▸ nil
  | succ n ih =>
    intro s hs
    match s with
    | [] => exact nil
    | b0 :: t =>
      rcases decodeRune_cons b0 t with he | ⟨r, t', hv, hs'⟩
      · exact stray b0 t he (ih t (by simpa using hs))
      · rw [hs'] at hs ⊢
        have := encodeRune_length_pos r hv
        exact char r t' hv (ih t' (by rw [List.length_append] at hs; omega))

end QuoteRT
