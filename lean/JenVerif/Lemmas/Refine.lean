import JenVerif.Lemmas.Frame
/-
  T-R / T-X: the stateful renderer (which registers imports on the fly) equals the pure
  renderer under the FINAL naming; registered names never change (stability).
  Corollaries of `Frame.renderS_sem`.
-/
namespace Refine
open Code Frame

/-- the stateful render of `c` from `f` leaves a state that extends `f`, and its text is the pure
    render under any later naming -/
def Spec (cfg : Cfg) (f : FileS) (prev : Option Code) (c : Code) : Prop :=
  Ext f (renderS cfg f prev c).2 ∧
  ∀ f3, Ext (renderS cfg f prev c).2 f3 → (renderS cfg f prev c).1 = renderP cfg (envOf f3) prev c

theorem renderS_spec (cfg : Cfg) : ∀ (c : Code) (f : FileS) (prev : Option Code),
    Good cfg f → PkgNonNull f c → Spec cfg f prev c :=
  fun c f prev hg hn => ⟨renderS_ext cfg f prev c hg, (renderS_sem cfg c f prev f.np hg rfl).2 hn⟩

theorem renderStmtS_spec (cfg : Cfg) : ∀ (cs : List Code) (first : Bool) (prev : Option Code) (f : FileS),
    Good cfg f →
    Ext f (renderStmtS cfg first prev f cs).2 ∧
    ∀ f3, Ext (renderStmtS cfg first prev f cs).2 f3 →
      (renderStmtS cfg first prev f cs).1 = renderStmtP cfg (envOf f3) first prev cs :=
  fun cs first prev f hg =>
    have s := renderStmtS_sem cfg cs first prev f f.np hg rfl
    ⟨s.tr.ext, s.val⟩

/-- T-R for a whole file: the unformatted source is head ++ import block ++ PURE rendering of the
    body, all three under the FINAL registry `f1`; and `f1` extends the initial state -/
theorem renderFileRaw_pure (cfg : Cfg) (f : FileS) (body : List Code) (hg : Good cfg f) :
    let f1 := (renderFileRaw cfg f body).2
    Ext f f1 ∧
    (renderFileRaw cfg f body).1 =
      fileHead cfg.isPrint f1 ++ renderImports cfg.isPrint f1 ++
        renderP cfg (envOf f1) none (.group fileInfo body) := by
  have s := renderS_sem cfg (.group fileInfo body) f none f.np hg rfl
  simp only [renderFileRaw]
  exact ⟨s.1.ext, by rw [s.2 trivial _ (Ext.refl _)]⟩

/-- T-X over repeated renders: a second render from the state the first one left produces the
    same body text (names are stable, null-ness is stable) -/
theorem rerender_same (cfg : Cfg) (f : FileS) (prev : Option Code) (c : Code) (hg : Good cfg f)
    (hn : PkgNonNull f c) :
    let f1 := (renderS cfg f prev c).2
    (renderS cfg f1 prev c).1 = (renderS cfg f prev c).1 ∧ Ext f1 (renderS cfg f1 prev c).2 := by
  have r := (renderS_sem cfg c).rerender (prev := prev) hg (Ext.refl _)
  exact ⟨r.2 hn, by rw [r.1 prev]; exact Ext.refl _⟩

/-- a render closure (as used for Dict keys and values) that satisfies `Spec` for a code `c` -/
structure ClosureOK (cfg : Cfg) (R : FileS → Str × FileS) (N : (Str → Bool) → Bool) (c : Code) : Prop where
  null : ∀ np, N np = isNull np c
  run : ∀ f, R f = renderS cfg f none c
  spec : ∀ f, Good cfg f → isNull f.np c = false → Spec cfg f none c

structure EntryOK (cfg : Cfg) (e : DEntry FileS) (k v : Code) : Prop where
  key : ClosureOK cfg e.kR e.kNull k
  val : ClosureOK cfg e.vR e.vNull v

inductive EntriesOK (cfg : Cfg) : List (DEntry FileS) → List (Code × Code) → Prop
  | nil : EntriesOK cfg [] []
  | cons {e es k v ps} : EntryOK cfg e k v → EntriesOK cfg es ps → EntriesOK cfg (e :: es) ((k, v) :: ps)

theorem dictEntries_ok (cfg : Cfg) : ∀ ps : List (Code × Code), EntriesOK cfg (dictEntriesS cfg ps) ps
  | [] => .nil
  | (k, v) :: ps =>
    .cons
      ⟨⟨fun _ => rfl, fun _ => rfl, fun f hg hn => renderS_spec cfg k f none hg (pkgNonNull_of_nonNull rfl hn)⟩,
       ⟨fun _ => rfl, fun _ => rfl, fun f hg hn => renderS_spec cfg v f none hg (pkgNonNull_of_nonNull rfl hn)⟩⟩
      (dictEntries_ok cfg ps)

end Refine
