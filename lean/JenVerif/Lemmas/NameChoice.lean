import JenVerif.Registry
import JenVerif.Lemmas.Digits
/-
  The names the registry chooses (jen/file.go `guessAlias`, and the uniquifier loop of `register`).
  The guessed alias is in `[a-z][a-z0-9]*` for every byte string.  The uniquifier's fuel always
  suffices: its candidates `name, name1, name2, …` and their prefixed forms are two injective
  families and `isValidAlias` refuses `|reserved| + |imports|` strings, so one of the first
  `uniqFuel` indices is accepted, and the loop returns the least acceptable index (`uniqLoop_least`).
  Namespace `RegistryInv`, with `Lemmas/RegistryInv.lean`.
-/

namespace RegistryInv
open Registry

def isLower (c : UInt8) : Bool := 97 ≤ c && c ≤ 122

def isLetter (c : UInt8) : Bool := (65 ≤ c && c ≤ 90) || (97 ≤ c && c ≤ 122) || c == 95

def isIdentChar (c : UInt8) : Bool := isLetter c || isDigit c

/-- `[a-z][a-z0-9]*` -/
def isLowerIdent : Str → Bool
  | [] => false
  | c :: cs => isLower c && cs.all isLowerAlnum

/-- ASCII Go identifier `[A-Za-z_][A-Za-z0-9_]*` -/
def isIdent : Str → Bool
  | [] => false
  | c :: cs => isLetter c && cs.all isIdentChar

theorem isLowerAlnum_eq (c : UInt8) : isLowerAlnum c = (isLower c || isDigit c) := rfl

theorem isLetter_eq (c : UInt8) : isLetter c = ((65 ≤ c && c ≤ 90) || isLower c || c == 95) := rfl

theorem isLower_isLetter (c : UInt8) (h : isLower c = true) : isLetter c = true := by
  rw [isLetter_eq, h, Bool.or_true, Bool.true_or]

theorem isLetter_isIdentChar (c : UInt8) (h : isLetter c = true) : isIdentChar c = true := by
  rw [isIdentChar, h, Bool.true_or]

theorem isDigit_isIdentChar (c : UInt8) (h : isDigit c = true) : isIdentChar c = true := by
  rw [isIdentChar, h, Bool.or_true]

theorem alnum_not_digit_isLower (c : UInt8) (h : isLowerAlnum c = true) (hd : isDigit c = false) :
    isLower c = true := by
  rwa [isLowerAlnum_eq, hd, Bool.or_false] at h

theorem isLowerAlnum_isIdentChar (c : UInt8) (h : isLowerAlnum c = true) : isIdentChar c = true := by
  cases hd : isDigit c
  · exact isLetter_isIdentChar c (isLower_isLetter c (alnum_not_digit_isLower c h hd))
  · exact isDigit_isIdentChar c hd

theorem isLowerIdent_isIdent {s : Str} (h : isLowerIdent s = true) : isIdent s = true := by
  cases s with
  | nil => simp [isLowerIdent] at h
  | cons c cs =>
    simp only [isLowerIdent, Bool.and_eq_true, List.all_eq_true] at h
    simp only [isIdent, Bool.and_eq_true, List.all_eq_true]
    exact ⟨isLower_isLetter c h.1, fun x hx => isLowerAlnum_isIdentChar x (h.2 x hx)⟩

theorem isIdent_ne_nil {s : Str} (h : isIdent s = true) : s ≠ [] := by
  intro e; subst e; simp [isIdent] at h

theorem isIdent_all {s : Str} (h : isIdent s = true) : s.all isIdentChar = true := by
  cases s with
  | nil => rfl
  | cons c cs =>
    simp only [isIdent, Bool.and_eq_true] at h
    simp only [List.all_cons, Bool.and_eq_true]
    exact ⟨isLetter_isIdentChar c h.1, h.2⟩

theorem isIdent_append {a b : Str} (ha : isIdent a = true) (hb : b.all isIdentChar = true) :
    isIdent (a ++ b) = true := by
  cases a with
  | nil => simp [isIdent] at ha
  | cons c cs =>
    simp only [isIdent, Bool.and_eq_true] at ha
    simp only [List.cons_append, isIdent, List.all_append, Bool.and_eq_true]
    exact ⟨ha.1, ha.2, hb⟩

theorem natDec_digits (n : Nat) : (Str.natDec n).all isDigit = true :=
  Digits.natDec_all (by decide) n

theorem natDec_ne_nil (n : Nat) : Str.natDec n ≠ [] := by
  obtain ⟨d, rest, h, -⟩ := Digits.natDec_head n
  rw [h]; exact List.cons_ne_nil _ _

theorem natDec_injective {i j : Nat} (h : Str.natDec i = Str.natDec j) : i = j := by
  rw [← Digits.natDec_val i, h, Digits.natDec_val]

theorem isIdent_append_natDec {s : Str} (n : Nat) (h : isIdent s = true) :
    isIdent (s ++ Str.natDec n) = true :=
  isIdent_append h (List.all_eq_true.2 fun x hx =>
    isDigit_isIdentChar x (List.all_eq_true.1 (natDec_digits n) x hx))

theorem isIdent_prefix {a b : Str} (ha : isIdent a = true) (hb : isIdent b = true) :
    isIdent (a ++ b!"_" ++ b) = true := by
  rw [List.append_assoc]
  refine isIdent_append ha ?_
  rw [List.all_append, isIdent_all hb, Bool.and_true]
  decide

/-- after the filter and the dropped digits: nothing, or a non-digit (`head?_dropWhile_not`) followed
    by lower-case alphanumerics -/
theorem guess_core (x : Str) :
    isLowerIdent (if ((x.filter isLowerAlnum).dropWhile isDigit).isEmpty then b!"pkg"
      else (x.filter isLowerAlnum).dropWhile isDigit) = true := by
  have hall : ∀ c ∈ (x.filter isLowerAlnum).dropWhile isDigit, isLowerAlnum c = true := fun c hc =>
    (List.mem_filter.1 ((List.dropWhile_sublist _).subset hc)).2
  have hd := List.head?_dropWhile_not isDigit (x.filter isLowerAlnum)
  cases e : (x.filter isLowerAlnum).dropWhile isDigit with
  | nil => decide
  | cons c cs =>
    rw [e] at hall hd
    show isLowerIdent (c :: cs) = true
    rw [isLowerIdent, alnum_not_digit_isLower c (hall c List.mem_cons_self) (by simpa using hd),
      List.all_eq_true.2 fun y hy => hall y (List.mem_cons_of_mem _ hy)]
    rfl

theorem guessAlias_legal (toLower : Str → Str) (p : Str) :
    isLowerIdent (guessAlias toLower p) = true := by
  unfold guessAlias
  exact guess_core _

theorem guessAlias_ident (toLower : Str → Str) (p : Str) :
    isIdent (guessAlias toLower p) = true :=
  isLowerIdent_isIdent (guessAlias_legal toLower p)

/-- `candidate`, `pcand` and `prefixed` each treat one argument (index `0`, the name `.`) apart from
    the rest -/
theorem injective_of_except {α β} {g : α → β} (a : α) (ha : ∀ x, x ≠ a → g x ≠ g a)
    (hg : ∀ x y, x ≠ a → y ≠ a → g x = g y → x = y) {x y : α} (h : g x = g y) : x = y := by
  by_cases hx : x = a <;> by_cases hy : y = a
  · rw [hx, hy]
  · exact absurd (hx ▸ h).symm (ha y hy)
  · exact absurd (hy ▸ h) (ha x hx)
  · exact hg x y hx hy h

/-- an injective family hits a list at most once per element (core's pigeonhole,
    `Nodup.length_le_of_subset`, on the images of the hits) -/
theorem hits_le {α} [DecidableEq α] {g : Nat → α} (hinj : ∀ i j, g i = g j → i = j) (B : List α)
    {l : List Nat} (hl : l.Nodup) : (l.filter (g · ∈ B)).length ≤ B.length := by
  rw [← List.length_map (f := g)]
  refine List.Nodup.length_le_of_subset ?_ fun x hx => ?_
  · exact List.Pairwise.map g (fun a b hab e => hab (hinj a b e)) (hl.filter _)
  · obtain ⟨i, hi, rfl⟩ := List.mem_map.mp hx
    simpa using (List.mem_filter.mp hi).2

/-- two injective families cannot both keep hitting `B` for `2·|B| + 1` indices -/
theorem exists_not_mem₂ {α} [DecidableEq α] {g₁ g₂ : Nat → α} (h₁ : ∀ i j, g₁ i = g₁ j → i = j)
    (h₂ : ∀ i j, g₂ i = g₂ j → i = j) (B : List α) :
    ∃ i, i ≤ 2 * B.length ∧ g₁ i ∉ B ∧ g₂ i ∉ B := by
  apply Classical.byContradiction
  intro hne
  -- otherwise every index below `2·|B| + 1` is a hit of one family or of the other
  have hsub : List.range (2 * B.length + 1) ⊆
      (List.range (2 * B.length + 1)).filter (g₁ · ∈ B) ++
        (List.range (2 * B.length + 1)).filter (g₂ · ∈ B) := fun i hi => by
    have hi' : i ≤ 2 * B.length := Nat.le_of_lt_succ (List.mem_range.1 hi)
    rw [List.mem_append, List.mem_filter, List.mem_filter, decide_eq_true_iff, decide_eq_true_iff]
    exact Classical.byContradiction fun h =>
      hne ⟨i, hi', fun a => h (.inl ⟨hi, a⟩), fun a => h (.inr ⟨hi, a⟩)⟩
  have c := List.nodup_range.length_le_of_subset hsub
  have c₁ := hits_le h₁ B (List.nodup_range (n := 2 * B.length + 1))
  have c₂ := hits_le h₂ B (List.nodup_range (n := 2 * B.length + 1))
  rw [List.length_append, List.length_range] at c
  omega

theorem candidate_zero (name : Str) : candidate name 0 = name := rfl

theorem candidate_pos (name : Str) {i : Nat} (h : i ≠ 0) :
    candidate name i = name ++ Str.natDec i := by
  simp [candidate, h]

theorem candidate_injective {name : Str} {i j : Nat} (h : candidate name i = candidate name j) :
    i = j := by
  refine injective_of_except (g := candidate name) 0 (fun i hi e => ?_) (fun i j hi hj e => ?_) h
  · rw [candidate_zero, candidate_pos name hi] at e
    exact natDec_ne_nil i (List.self_eq_append_right.mp e.symm)
  · rw [candidate_pos name hi, candidate_pos name hj] at e
    exact natDec_injective (List.append_cancel_left e)

theorem candidate_bne_name (name : Str) (k : Nat) : (candidate name k != name) = (k != 0) := by
  by_cases h : k = 0
  · subst h; rw [candidate_zero]; simp
  · have h' : candidate name k ≠ name := fun e =>
      h (candidate_injective (e.trans (candidate_zero name).symm))
    rw [bne_iff_ne.mpr h', bne_iff_ne.mpr h]

theorem prefixed_of_pfx_nil {f : FileS} (h : f.pfx = []) (n : Str) (a : Bool) :
    prefixed f n a = n := by
  simp [prefixed, h]

theorem prefixed_false (f : FileS) (n : Str) : prefixed f n false = n := by
  simp [prefixed]

theorem prefixed_dot (f : FileS) (a : Bool) : prefixed f b!"." a = b!"." := by
  simp [prefixed]

theorem prefixed_true {f : FileS} (h : f.pfx ≠ []) {n : Str} (hn : n ≠ b!".") :
    prefixed f n true = f.pfx ++ b!"_" ++ n := by
  simp [prefixed, h, hn]

theorem prefixed_cases (f : FileS) (n : Str) (a : Bool) :
    prefixed f n a = n ∨ (f.pfx ≠ [] ∧ prefixed f n a = f.pfx ++ b!"_" ++ n) := by
  unfold prefixed
  split
  · next h =>
    simp only [Bool.and_eq_true, bne_iff_ne] at h
    exact .inr ⟨h.1.1, rfl⟩
  · exact .inl rfl

theorem prefixed_true_injective {f : FileS} {n m : Str}
    (h : prefixed f n true = prefixed f m true) : n = m := by
  by_cases hp : f.pfx = []
  · simpa [prefixed_of_pfx_nil hp] using h
  · refine injective_of_except (g := (prefixed f · true)) b!"."
      (fun n hn (e : prefixed f n true = prefixed f b!"." true) => ?_)
      (fun n m hn hm (e : prefixed f n true = prefixed f m true) => ?_) h
    · rw [prefixed_dot, prefixed_true hp hn] at e
      have hlen := List.length_pos_iff.mpr hp
      have := congrArg List.length e
      simp at this; omega
    · rw [prefixed_true hp hn, prefixed_true hp hm] at e
      exact List.append_cancel_left e

/-- the second string tested by `acceptable` at index `i` -/
def pcand (f : FileS) (name : Str) (alias : Bool) (i : Nat) : Str :=
  prefixed f (candidate name i) (alias || i != 0)

theorem pcand_pos (f : FileS) (name : Str) (alias : Bool) {i : Nat} (h : i ≠ 0) :
    pcand f name alias i = prefixed f (candidate name i) true := by
  rw [pcand, bne_iff_ne.mpr h, Bool.or_true]

theorem pcand_false_zero (f : FileS) (name : Str) : pcand f name false 0 = name :=
  prefixed_false f name

theorem pcand_longer (f : FileS) (n : Str) (a : Bool) {i : Nat} (hi : i ≠ 0) :
    n.length < (pcand f n a i).length := by
  have := List.length_pos_iff.mpr (natDec_ne_nil i)
  rw [pcand_pos f n a hi]
  rcases prefixed_cases f (candidate n i) true with e | ⟨_, e⟩ <;> rw [e, candidate_pos n hi]
  · simp; omega
  · simp; omega

theorem pcand_eq_or_longer (f : FileS) (n : Str) (a : Bool) (i : Nat) :
    pcand f n a i = n ∨ n.length < (pcand f n a i).length := by
  by_cases hi : i = 0
  · subst hi
    unfold pcand
    rcases prefixed_cases f (candidate n 0) (a || 0 != 0) with e | ⟨_, e⟩ <;> rw [e, candidate_zero]
    · exact .inl rfl
    · right; simp; omega
  · exact .inr (pcand_longer f n a hi)

theorem pcand_injective {f : FileS} {name : Str} {alias : Bool} {i j : Nat}
    (h : pcand f name alias i = pcand f name alias j) : i = j := by
  cases alias with
  | true =>
    simp only [pcand, Bool.true_or] at h
    exact candidate_injective (prefixed_true_injective h)
  | false =>
    -- index 0 gives the bare name, every other index something longer
    refine injective_of_except (g := pcand f name false) 0 (fun i hi e => ?_) (fun i j hi hj e => ?_) h
    · have := pcand_longer f name false hi
      rw [e, pcand_false_zero] at this; omega
    · rw [pcand_pos f name false hi, pcand_pos f name false hj] at e
      exact candidate_injective (prefixed_true_injective e)

theorem pcand_len_one {f : FileS} {n s : Str} {a : Bool} {i : Nat} (hn : n ≠ [])
    (hs : s.length = 1) (h : pcand f n a i = s) : n = s := by
  have := List.length_pos_iff.mpr hn
  rcases pcand_eq_or_longer f n a i with e | e
  · exact e ▸ h
  · rw [h] at e; omega

theorem pcand_ne_nil (f : FileS) {n : Str} (hn : n ≠ []) (a : Bool) (i : Nat) :
    pcand f n a i ≠ [] := by
  rcases pcand_eq_or_longer f n a i with e | e
  · rwa [e]
  · exact fun h => by rw [h] at e; cases e

theorem pcand_ident {f : FileS} (hpf : f.pfx = [] ∨ isIdent f.pfx = true) {n : Str}
    (hn : isIdent n = true) (a : Bool) (i : Nat) : isIdent (pcand f n a i) = true := by
  have hc : isIdent (candidate n i) = true := by
    by_cases hi : i = 0
    · exact hi ▸ hn
    · rw [candidate_pos n hi]; exact isIdent_append_natDec i hn
  unfold pcand
  rcases prefixed_cases f (candidate n i) (a || i != 0) with e | ⟨hp, e⟩ <;> rw [e]
  · exact hc
  · exact isIdent_prefix (hpf.resolve_left hp) hc

theorem acceptable_eq (cfg : Cfg) (f : FileS) (name : Str) (alias : Bool) (i : Nat) :
    acceptable cfg f name alias i =
      (isValidAlias cfg f (candidate name i) && isValidAlias cfg f (pcand f name alias i)) := rfl

theorem isValidAlias_iff (cfg : Cfg) (f : FileS) (a : Str) :
    isValidAlias cfg f a = true ↔
      a = b!"." ∨ (a ∉ cfg.reserved ∧ ∀ q e, (q, e) ∈ f.imports → e.name ≠ a) := by
  simp only [isValidAlias, Bool.or_eq_true, beq_iff_eq, Bool.and_eq_true, Bool.not_eq_true',
    List.contains_eq_mem, decide_eq_false_iff_not, List.any_eq_false, Prod.forall, ne_eq]

theorem isValidAlias_of_not_mem {cfg : Cfg} {f : FileS} {a : Str}
    (h : a ∉ cfg.reserved ++ f.imports.map (·.2.name)) : isValidAlias cfg f a = true := by
  simp only [List.mem_append, List.mem_map, not_or] at h
  exact (isValidAlias_iff cfg f a).2 (.inr ⟨h.1, fun q e he hne => h.2 ⟨(q, e), he, hne⟩⟩)

/-- the candidates and the prefixed candidates are two injective families, and
    `|reserved| + |imports|` strings are refused -/
theorem uniqLoop_finds (cfg : Cfg) (f : FileS) (name : Str) (alias : Bool) :
    ∃ i, i ≤ 2 * (cfg.reserved.length + f.imports.length) ∧
      acceptable cfg f name alias i = true := by
  obtain ⟨i, hi, h1, h2⟩ := exists_not_mem₂ (fun _ _ => candidate_injective (name := name))
    (fun _ _ => pcand_injective (f := f) (name := name) (alias := alias))
    (cfg.reserved ++ f.imports.map (·.2.name))
  rw [List.length_append, List.length_map] at hi
  exact ⟨i, hi, by rw [acceptable_eq, isValidAlias_of_not_mem h1, isValidAlias_of_not_mem h2]; rfl⟩

/-- `k` is any acceptable index that the fuel reaches; the loop returns the least one from `i` on -/
theorem uniqLoop_min (cfg : Cfg) (f : FileS) (name : Str) (alias : Bool) :
    ∀ (fuel i k : Nat), i ≤ k → k < i + fuel → acceptable cfg f name alias k = true →
      acceptable cfg f name alias (uniqLoop cfg f name alias fuel i) = true ∧
      i ≤ uniqLoop cfg f name alias fuel i ∧ uniqLoop cfg f name alias fuel i ≤ k ∧
      ∀ j, i ≤ j → j < uniqLoop cfg f name alias fuel i →
        acceptable cfg f name alias j = false := by
  intro fuel
  induction fuel with
  | zero => intro i k h1 h2; omega
  | succ fuel ih =>
    intro i k h1 h2 hk
    unfold uniqLoop
    split
    · next hi => exact ⟨hi, Nat.le_refl _, h1, fun j hj1 hj2 => by omega⟩
    · next hi =>
      have hik : i ≠ k := fun e => hi (e ▸ hk)
      obtain ⟨a1, a2, a3, a4⟩ := ih (i + 1) k (by omega) (by omega) hk
      refine ⟨a1, by omega, a3, fun j hj1 hj2 => ?_⟩
      by_cases hji : j = i
      · subst hji; simpa using hi
      · exact a4 j (by omega) hj2

/-- the fuel `uniqFuel` always suffices -/
theorem uniqLoop_least (cfg : Cfg) (f : FileS) (name : Str) (alias : Bool) :
    let i := uniqLoop cfg f name alias (uniqFuel cfg f) 0
    acceptable cfg f name alias i = true ∧ (∀ j, j < i → acceptable cfg f name alias j = false) ∧
    i ≤ 2 * (cfg.reserved.length + f.imports.length) := by
  obtain ⟨k, hk, hacc⟩ := uniqLoop_finds cfg f name alias
  obtain ⟨a1, _, a3, a4⟩ :=
    uniqLoop_min cfg f name alias (uniqFuel cfg f) 0 k (Nat.zero_le _) (by unfold uniqFuel; omega) hacc
  exact ⟨a1, fun j hj => a4 j (Nat.zero_le _) hj, Nat.le_trans a3 hk⟩

theorem uniqLoop_spec (cfg : Cfg) (f : FileS) (name : Str) (alias : Bool) :
    let i := uniqLoop cfg f name alias (uniqFuel cfg f) 0
    acceptable cfg f name alias i = true ∧ ∀ j, j < i → acceptable cfg f name alias j = false :=
  ⟨(uniqLoop_least cfg f name alias).1, (uniqLoop_least cfg f name alias).2.1⟩

/-- with any fuel `≥ uniqFuel` the loop has stopped by its own condition -/
theorem uniqLoop_fuel (cfg : Cfg) (f : FileS) (name : Str) (alias : Bool) (fuel : Nat)
    (hf : uniqFuel cfg f ≤ fuel) :
    uniqLoop cfg f name alias fuel 0 = uniqLoop cfg f name alias (uniqFuel cfg f) 0 := by
  obtain ⟨k, hk, hacc⟩ := uniqLoop_finds cfg f name alias
  obtain ⟨a1, _, _, a4⟩ := uniqLoop_min cfg f name alias fuel 0 k (Nat.zero_le _)
    (by unfold uniqFuel at hf; omega) hacc
  obtain ⟨b1, _, _, b4⟩ := uniqLoop_min cfg f name alias (uniqFuel cfg f) 0 k (Nat.zero_le _)
    (by unfold uniqFuel; omega) hacc
  -- both are the least acceptable index: neither is below the other
  refine Nat.le_antisymm (Nat.le_of_not_lt fun h => ?_) (Nat.le_of_not_lt fun h => ?_)
  · exact Bool.false_ne_true ((a4 _ (Nat.zero_le _) h).symm.trans b1)
  · exact Bool.false_ne_true ((b4 _ (Nat.zero_le _) h).symm.trans a1)

theorem uniqLoop_zero {cfg : Cfg} {f : FileS} {n : Str} {a : Bool}
    (h : acceptable cfg f n a 0 = true) : uniqLoop cfg f n a (uniqFuel cfg f) 0 = 0 := by
  simp [uniqFuel, uniqLoop, h]

#print axioms isLowerIdent_isIdent
#print axioms isIdent_append_natDec
#print axioms isIdent_prefix
#print axioms natDec_digits
#print axioms natDec_ne_nil
#print axioms natDec_injective
#print axioms guessAlias_legal
#print axioms candidate_injective
#print axioms pcand_injective
#print axioms uniqLoop_finds
#print axioms uniqLoop_spec

end RegistryInv
