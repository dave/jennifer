import JenVerif.FileRender
import JenVerif.Lemmas.AList
/-
  Permutation invariance of the sorted renderings.  Go maps are iterated in arbitrary order;
  the model takes the entries of a map as a list.  The theorems below show that the list order
  does not matter.
-/

namespace PermLemmas
open List Code

/-- `Str.le` is the lexicographic `≤` of core on `List UInt8` -/
theorem le_iff (a b : Str) : Str.le a b = true ↔ a ≤ b := by
  induction a generalizing b with
  | nil => simp [Str.le]
  | cons x xs ih =>
    cases b with
    | nil => simp [Str.le]
    | cons y ys =>
      rw [Str.le, List.cons_le_cons_iff, ← ih]
      by_cases h1 : x < y
      · simp [h1]
      · by_cases h2 : y < x
        · have : x ≠ y := fun e => by subst e; exact h1 h2
          simp [h1, h2, this]
        · have : x = y := UInt8.le_antisymm (UInt8.not_lt.1 h2) (UInt8.not_lt.1 h1)
          simp [this]

theorem le_refl (a : Str) : Str.le a a = true := (le_iff a a).2 (List.le_refl a)

theorem le_total (a b : Str) : (Str.le a b || Str.le b a) = true := by
  rw [Bool.or_eq_true, le_iff, le_iff]; exact List.le_total a b

theorem le_trans {a b c : Str} : Str.le a b = true → Str.le b c = true → Str.le a c = true :=
  fun h1 h2 => (le_iff a c).2 (List.le_trans ((le_iff a b).1 h1) ((le_iff b c).1 h2))

theorem le_antisymm {a b : Str} : Str.le a b = true → Str.le b a = true → a = b :=
  fun h1 h2 => List.le_antisymm ((le_iff a b).1 h1) ((le_iff b a).1 h2)

/-- `a < b` written `!Str.le b a` is transitive -/
theorem not_le_trans (a b c : Str) (h1 : (!Str.le b a) = true) (h2 : (!Str.le c b) = true) :
    (!Str.le c a) = true := by
  rw [Bool.not_eq_true', ← Bool.not_eq_true, le_iff, List.not_le] at *
  exact List.lt_trans h1 h2

theorem mergeSort_eq_of_perm {α : Type _} {cmp : α → α → Bool} {l₁ l₂ : List α}
    (trans : ∀ a b c, cmp a b = true → cmp b c = true → cmp a c = true)
    (total : ∀ a b, (cmp a b || cmp b a) = true)
    (anti : ∀ a b, a ∈ l₁ → b ∈ l₁ → cmp a b = true → cmp b a = true → a = b)
    (h : l₁.Perm l₂) : l₁.mergeSort cmp = l₂.mergeSort cmp :=
  Perm.eq_of_pairwise (le := fun a b => cmp a b = true)
    (fun a b ha hb => anti a b (mem_mergeSort.1 ha) (h.mem_iff.2 (mem_mergeSort.1 hb)))
    (pairwise_mergeSort trans total l₁) (pairwise_mergeSort trans total l₂)
    ((mergeSort_perm l₁ cmp).trans (h.trans (mergeSort_perm l₂ cmp).symm))

/-- entries with distinct keys sorted by key (`tagLe` and `pathLe` are this comparison): the key order
    is antisymmetric on keys only, which is enough when no key occurs twice -/
theorem sorted_by_key_perm {β : Type _} {l₁ l₂ : List (Str × β)} (h : l₁.Perm l₂)
    (nd : (l₁.map (·.1)).Nodup) :
    l₁.mergeSort (fun a b => Str.le a.1 b.1) = l₂.mergeSort (fun a b => Str.le a.1 b.1) :=
  mergeSort_eq_of_perm (fun _ _ _ => le_trans) (fun a b => le_total a.1 b.1)
    (fun _ _ ha hb h1 h2 => AList.eq_of_key_eq nd ha hb (le_antisymm h1 h2)) h

theorem sorted_by_key_pairwise {β : Type _} (l : List (Str × β)) :
    (l.mergeSort fun a b => Str.le a.1 b.1).Pairwise fun a b => Str.le a.1 b.1 = true :=
  pairwise_mergeSort (le := fun a b => Str.le a.1 b.1) (fun _ _ _ => le_trans) (fun a b => le_total a.1 b.1) l

/-- a struct tag renders the same whatever the order in which the Go map is iterated -/
theorem tag_perm (isPrint : Nat → Bool) {l₁ l₂ : List (Str × Str)} (h : l₁.Perm l₂)
    (nd : (l₁.map (·.1)).Nodup) : renderTag isPrint l₁ = renderTag isPrint l₂ := by
  unfold renderTag
  rw [show l₁.mergeSort tagLe = l₂.mergeSort tagLe from sorted_by_key_perm h nd]

example : renderTag (fun _ => true) [(b!"json", b!"a"), (b!"db", b!"b")]
    = renderTag (fun _ => true) [(b!"db", b!"b"), (b!"json", b!"a")] :=
  tag_perm _ (Perm.swap _ _ _) (by decide)

/-- `dictLe` is the lexicographic product of the byte order with itself -/
theorem dictLe_iff (a b : Str × Str) : dictLe a b = true ↔ a.1 < b.1 ∨ (a.1 = b.1 ∧ a.2 ≤ b.2) := by
  unfold dictLe
  by_cases h : a.1 = b.1
  · simp [h, le_iff, List.lt_irrefl]
  · simp only [beq_iff_eq, h, if_false, le_iff, false_and, or_false]
    exact ⟨fun hle => Std.lt_of_le_of_ne hle h, List.le_of_lt⟩

theorem dictLe_refl (a : Str × Str) : dictLe a a = true := (dictLe_iff a a).2 (.inr ⟨rfl, List.le_refl _⟩)

theorem dictLe_total (a b : Str × Str) : (dictLe a b || dictLe b a) = true := by
  rw [Bool.or_eq_true, dictLe_iff, dictLe_iff]
  rcases Std.lt_trichotomy a.1 b.1 with h | h | h
  · exact .inl (.inl h)
  · exact (List.le_total a.2 b.2).imp (fun h' => .inr ⟨h, h'⟩) (fun h' => .inr ⟨h.symm, h'⟩)
  · exact .inr (.inl h)

theorem dictLe_antisymm {a b : Str × Str} : dictLe a b = true → dictLe b a = true → a = b := by
  rw [dictLe_iff, dictLe_iff]
  rintro (h1 | ⟨e, h1⟩) (h2 | ⟨e', h2⟩)
  · exact absurd h2 (List.lt_asymm h1)
  · exact absurd (e' ▸ h1) (List.lt_irrefl _)
  · exact absurd (e ▸ h2) (List.lt_irrefl _)
  · exact Prod.ext e (List.le_antisymm h1 h2)

theorem dictLe_trans (a b c : Str × Str) :
    dictLe a b = true → dictLe b c = true → dictLe a c = true := by
  rw [dictLe_iff, dictLe_iff, dictLe_iff]
  rintro (h1 | ⟨e, h1⟩) (h2 | ⟨e', h2⟩)
  · exact .inl (List.lt_trans h1 h2)
  · exact .inl (e' ▸ h1)
  · exact .inl (e ▸ h2)
  · exact .inr ⟨e.trans e', List.le_trans h1 h2⟩

/-- the sorted Dict pairs do not depend on the order of the pairs (no distinctness needed:
    `dictLe` is antisymmetric on whole pairs) -/
theorem dict_sorted_perm {l₁ l₂ : List (Str × Str)} (h : l₁.Perm l₂) :
    l₁.mergeSort dictLe = l₂.mergeSort dictLe :=
  mergeSort_eq_of_perm dictLe_trans dictLe_total (fun _ _ _ _ => dictLe_antisymm) h

/-- the text `renderP` writes for a Dict depends only on the multiset of kept (key, value) texts -/
theorem dict_render_perm {l₁ l₂ : List (Str × Str)} (h : l₁.Perm l₂) :
    Code.dictBodyP (l₁.mergeSort dictLe).length true (l₁.mergeSort dictLe)
      = Code.dictBodyP (l₂.mergeSort dictLe).length true (l₂.mergeSort dictLe) := by
  rw [dict_sorted_perm h]

/-- the `match filtered with …` of `renderImports`, as a function of the filtered entries -/
def importsMain (isPrint : Nat → Bool) (filtered : List (Str × Def)) : Str :=
  match filtered with
  | [] => []
  | [e] => b!"import " ++ importSpec isPrint e ++ b!"\n\n"
  | es => b!"import (\n" ++ ((es.mergeSort pathLe).map fun e => importSpec isPrint e ++ b!"\n").flatten ++ b!")\n\n"

theorem renderImports_eq (isPrint : Nat → Bool) (f : FileS) :
    renderImports isPrint f =
      importsMain isPrint (f.imports.filter fun e => !(e.1 == b!"C" && !f.cgo.isEmpty)) ++
        (if !f.cgo.isEmpty then commentLines f.cgo ++ b!"import \"C\"\n\n" else []) := rfl

theorem importsMain_perm (isPrint : Nat → Bool) {l₁ l₂ : List (Str × Def)} (h : l₁.Perm l₂)
    (nd : (l₁.map (·.1)).Nodup) : importsMain isPrint l₁ = importsMain isPrint l₂ := by
  match l₁, l₂, h, nd with
  | [], l₂, h, _ => rw [h.nil_eq]
  | [e], l₂, h, _ => rw [singleton_perm.1 h]
  | a :: b :: t, l₂, h, nd =>
    match l₂, h with
    | [], h => exact absurd h.length_eq (by simp)
    | [e], h => exact absurd h.length_eq (by simp)
    | a' :: b' :: t', h =>
      simp only [importsMain]
      rw [show (a :: b :: t).mergeSort pathLe = (a' :: b' :: t').mergeSort pathLe from sorted_by_key_perm h nd]

/-- the import block is the same whatever the order in which the `imports` map is iterated;
    of the other fields only `cgo` matters -/
theorem imports_perm' (isPrint : Nat → Bool) {f₁ f₂ : FileS} (h : f₁.imports.Perm f₂.imports)
    (nd : (f₁.imports.map (·.1)).Nodup) (hc : f₁.cgo = f₂.cgo) :
    renderImports isPrint f₁ = renderImports isPrint f₂ := by
  rw [renderImports_eq, renderImports_eq, ← hc]
  congr 1
  exact importsMain_perm isPrint (h.filter _) (nd.sublist ((filter_sublist (l := f₁.imports)).map _))

/-- … for two file states whose other fields are equal (the proof does not need that) -/
theorem imports_perm (isPrint : Nat → Bool) {f₁ f₂ : FileS} (h : f₁.imports.Perm f₂.imports)
    (nd : (f₁.imports.map (·.1)).Nodup)
    (_hname : f₁.name = f₂.name) (_hpath : f₁.path = f₂.path) (_hhints : f₁.hints = f₂.hints)
    (_hcomments : f₁.comments = f₂.comments) (_hheaders : f₁.headers = f₂.headers)
    (hcgo : f₁.cgo = f₂.cgo) (_hnf : f₁.noFormat = f₂.noFormat) (_hpfx : f₁.pfx = f₂.pfx)
    (_hcan : f₁.canonical = f₂.canonical) :
    renderImports isPrint f₁ = renderImports isPrint f₂ :=
  imports_perm' isPrint h nd hcgo

theorem imports_perm_with (isPrint : Nat → Bool) (f : FileS) {imps : List (Str × Def)}
    (h : f.imports.Perm imps) (nd : (f.imports.map (·.1)).Nodup) :
    renderImports isPrint f = renderImports isPrint { f with imports := imps } :=
  imports_perm' isPrint h nd rfl

example :
    renderImports (fun _ => true) { imports := [(b!"fmt", ⟨b!"fmt", false⟩), (b!"a/b", ⟨b!"b", false⟩)] }
      = renderImports (fun _ => true) { imports := [(b!"a/b", ⟨b!"b", false⟩), (b!"fmt", ⟨b!"fmt", false⟩)] } :=
  imports_perm' _ (Perm.swap _ _ _) (by decide) rfl

theorem fileHead_imports_irrelevant (isPrint : Nat → Bool) (f : FileS) (imps : List (Str × Def)) :
    fileHead isPrint { f with imports := imps } = fileHead isPrint f := rfl

theorem isValidAlias_perm' (cfg : Cfg) {f₁ f₂ : FileS} (h : f₁.imports.Perm f₂.imports) (a : Str) :
    Registry.isValidAlias cfg f₁ a = Registry.isValidAlias cfg f₂ a := by
  simp only [Registry.isValidAlias, h.any_eq]

theorem isValidAlias_perm (cfg : Cfg) (f : FileS) {imps : List (Str × Def)}
    (h : f.imports.Perm imps) (a : Str) :
    Registry.isValidAlias cfg f a = Registry.isValidAlias cfg { f with imports := imps } a :=
  isValidAlias_perm' cfg h a

/-- closed form: the resulting hint for `p` is the map's entry for `p` when there is one,
    the old hint otherwise (distinct keys, so "the" entry) -/
theorem importNames_lookup (f : FileS) {m : List (Str × Str)} (nd : (m.map (·.1)).Nodup) (p : Str) :
    AList.lookup (Registry.importNames f m).hints p =
      match AList.lookup m p with
      | some n => some ⟨n, false⟩
      | none => AList.lookup f.hints p := by
  induction m generalizing f with
  | nil => rfl
  | cons e es ih =>
    have nd' := nodup_cons.1 nd
    show AList.lookup (Registry.importNames (Registry.importName f e.1 e.2) es).hints p = _
    obtain ⟨k, n⟩ := e
    rw [ih _ nd'.2, AList.lookup_cons]
    by_cases hk : k = p
    · subst hk
      rw [AList.lookup_eq_none es k fun x hx hxe => nd'.1 (mem_map.2 ⟨x, hx, hxe⟩)]
      simp [Registry.importName, AList.lookup_insert]
    · simp only [beq_iff_eq, hk, if_false, Registry.importName, AList.lookup_insert]

/-- the hint table after `ImportNames(m)` is the same MAP whatever the order in which the
    Go map `m` (distinct keys) is iterated -/
theorem importNames_perm (f : FileS) {m₁ m₂ : List (Str × Str)} (h : m₁.Perm m₂)
    (nd : (m₁.map (·.1)).Nodup) (p : Str) :
    AList.lookup (Registry.importNames f m₁).hints p
      = AList.lookup (Registry.importNames f m₂).hints p := by
  rw [importNames_lookup f nd, importNames_lookup f ((h.map _).nodup_iff.1 nd), AList.lookup_perm h nd]

end PermLemmas
