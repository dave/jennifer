import JenVerif.Lemmas.PermLemmas
import JenVerif.Lemmas.RenderSim
/-
  The order of the hint table does not matter either: file states that differ only in the representation
  of `hints` (`HintEquiv`) are related by a simulation (`hintEquiv_sim`), so every entry point returns the
  same result from both.  Namespace `PermLemmas`, with `Lemmas/PermLemmas.lean`.
-/

namespace PermLemmas
open List Code

/-!
  The model reads `FileS.hints` only in `Registry.lookupHint` (and writes it only in
  `importName` / `importAlias`).  Two file states that agree on every other field and whose hint
  tables are the same MAP are therefore indistinguishable for the registry: same answers, and
  `register` leads to states that are again equivalent. -/

/-- equal up to the representation (insertion order) of the hint table -/
structure HintEquiv (f₁ f₂ : FileS) : Prop where
  name : f₁.name = f₂.name
  path : f₁.path = f₂.path
  imports : f₁.imports = f₂.imports
  comments : f₁.comments = f₂.comments
  headers : f₁.headers = f₂.headers
  cgo : f₁.cgo = f₂.cgo
  noFormat : f₁.noFormat = f₂.noFormat
  pfx : f₁.pfx = f₂.pfx
  canonical : f₁.canonical = f₂.canonical
  hints : ∀ p, AList.lookup f₁.hints p = AList.lookup f₂.hints p

theorem HintEquiv.refl (f : FileS) : HintEquiv f f :=
  ⟨rfl, rfl, rfl, rfl, rfl, rfl, rfl, rfl, rfl, fun _ => rfl⟩

theorem HintEquiv.symm {f₁ f₂ : FileS} (h : HintEquiv f₁ f₂) : HintEquiv f₂ f₁ :=
  ⟨h.name.symm, h.path.symm, h.imports.symm, h.comments.symm, h.headers.symm, h.cgo.symm,
   h.noFormat.symm, h.pfx.symm, h.canonical.symm, fun p => (h.hints p).symm⟩

theorem HintEquiv.trans {f₁ f₂ f₃ : FileS} (h : HintEquiv f₁ f₂) (g : HintEquiv f₂ f₃) :
    HintEquiv f₁ f₃ :=
  ⟨h.name.trans g.name, h.path.trans g.path, h.imports.trans g.imports,
   h.comments.trans g.comments, h.headers.trans g.headers, h.cgo.trans g.cgo,
   h.noFormat.trans g.noFormat, h.pfx.trans g.pfx, h.canonical.trans g.canonical,
   fun p => (h.hints p).trans (g.hints p)⟩

theorem importNames_hintEquiv (f : FileS) {m₁ m₂ : List (Str × Str)} (h : m₁.Perm m₂)
    (nd : (m₁.map (·.1)).Nodup) :
    HintEquiv (Registry.importNames f m₁) (Registry.importNames f m₂) := by
  rw [RegistryInv.importNames_writes f m₁, RegistryInv.importNames_writes f m₂]
  exact ⟨rfl, rfl, rfl, rfl, rfl, rfl, rfl, rfl, rfl, importNames_perm f h nd⟩

theorem HintEquiv.regEq {f₁ f₂ : FileS} (h : HintEquiv f₁ f₂) : Registry.RegEq f₁ f₂ :=
  ⟨h.path, h.imports, h.pfx, fun p => by simp only [Registry.lookupHint, h.hints p]⟩

section congr
variable {f₁ f₂ : FileS} (h : HintEquiv f₁ f₂)
include h

theorem withImports_hintEquiv (i₁ i₂ : List (Str × Def)) (hi : i₁ = i₂) :
    HintEquiv { f₁ with imports := i₁ } { f₂ with imports := i₂ } :=
  ⟨h.name, h.path, hi, h.comments, h.headers, h.cgo, h.noFormat, h.pfx, h.canonical, h.hints⟩

theorem anon_congr (p : Str) : HintEquiv (Registry.anon f₁ p) (Registry.anon f₂ p) :=
  withImports_hintEquiv h _ _ (by rw [h.imports])

theorem renderImports_congr (isPrint : Nat → Bool) :
    renderImports isPrint f₁ = renderImports isPrint f₂ := by
  simp only [renderImports, h.imports, h.cgo]

theorem fileHead_congr (isPrint : Nat → Bool) : fileHead isPrint f₁ = fileHead isPrint f₂ := by
  simp only [fileHead, h.headers, h.comments, h.name, h.canonical]

end congr

/-- a later hint setter keeps equivalence: the lookup after an insertion is a function of the lookup before -/
theorem insertHint_congr {f₁ f₂ : FileS} (h : HintEquiv f₁ f₂) (p : Str) (d : Def) :
    HintEquiv { f₁ with hints := AList.insert f₁.hints p d } { f₂ with hints := AList.insert f₂.hints p d } :=
  ⟨h.name, h.path, h.imports, h.comments, h.headers, h.cgo, h.noFormat, h.pfx, h.canonical,
   fun q => by simp only [AList.lookup_insert, h.hints q]⟩

theorem importName_congr {f₁ f₂ : FileS} (h : HintEquiv f₁ f₂) (p n : Str) :
    HintEquiv (Registry.importName f₁ p n) (Registry.importName f₂ p n) := insertHint_congr h p _

theorem importAlias_congr {f₁ f₂ : FileS} (h : HintEquiv f₁ f₂) (p n : Str) :
    HintEquiv (Registry.importAlias f₁ p n) (Registry.importAlias f₂ p n) := insertHint_congr h p _

/-- consequences for `ImportNames` iterated in two orders: every registry query answers the same -/
theorem importNames_perm_queries (cfg : Cfg) (f : FileS) {m₁ m₂ : List (Str × Str)}
    (h : m₁.Perm m₂) (nd : (m₁.map (·.1)).Nodup) (p : Str) :
    Registry.lookupHint (Registry.importNames f m₁) p = Registry.lookupHint (Registry.importNames f m₂) p ∧
    Registry.isDotImport (Registry.importNames f m₁) p = Registry.isDotImport (Registry.importNames f m₂) p ∧
    (Registry.importNames f m₁).np p = (Registry.importNames f m₂).np p ∧
    Registry.chooseDef cfg (Registry.importNames f m₁) p = Registry.chooseDef cfg (Registry.importNames f m₂) p ∧
    (Registry.register cfg (Registry.importNames f m₁) p).1 =
      (Registry.register cfg (Registry.importNames f m₂) p).1 :=
  have e := importNames_hintEquiv f h nd
  ⟨e.regEq.hint p, e.regEq.isDotImport p, congrFun e.regEq.np p, e.regEq.chooseDef cfg p,
   (e.regEq.register cfg p).1⟩

theorem hintEquiv_sim (cfg : Cfg) : Sim cfg HintEquiv :=
  .of_regEq HintEquiv.regEq fun i h => withImports_hintEquiv h i i rfl

theorem renderFileRaw_congr {f₁ f₂ : FileS} (h : HintEquiv f₁ f₂) (cfg : Cfg) (body : List Code) :
    RelR HintEquiv (renderFileRaw cfg f₁ body) (renderFileRaw cfg f₂ body) := by
  have r := renderS_sim (hintEquiv_sim cfg) (.group fileInfo body) none h
  unfold renderFileRaw
  exact ⟨by simp only [r.1, fileHead_congr r.2, renderImports_congr r.2], r.2⟩

/-- the three entry points compute result and effects from the rendered text, the `noFormat` flag and
    the null-ness test, and hand on the renderer's state -/
theorem entry_congr {f₁ f₂ : FileS} (h : HintEquiv f₁ f₂) {r₁ r₂ : Str × FileS}
    (r : RelR HintEquiv r₁ r₂) (E : Bool → (Str → Bool) → Str → Result × List Effect) :
    (E f₁.noFormat f₁.np r₁.1).1 = (E f₂.noFormat f₂.np r₂.1).1 ∧
    (E f₁.noFormat f₁.np r₁.1).2 = (E f₂.noFormat f₂.np r₂.1).2 ∧ HintEquiv r₁.2 r₂.2 := by
  rw [h.noFormat, h.regEq.np, r.1]
  exact ⟨rfl, rfl, r.2⟩

theorem fileRender_congr {f₁ f₂ : FileS} (h : HintEquiv f₁ f₂) (w : World) (cfg : Cfg)
    (body : List Code) :
    (fileRender w cfg f₁ body).1 = (fileRender w cfg f₂ body).1 ∧
    (fileRender w cfg f₁ body).2.1 = (fileRender w cfg f₂ body).2.1 ∧
    HintEquiv (fileRender w cfg f₁ body).2.2 (fileRender w cfg f₂ body).2.2 :=
  entry_congr h (renderFileRaw_congr h cfg body) fun nf np => fileRenderFrom w nf (misuse np (.group fileInfo body))

theorem fileSave_congr {f₁ f₂ : FileS} (h : HintEquiv f₁ f₂) (w : World) (cfg : Cfg)
    (body : List Code) :
    (fileSave w cfg f₁ body).1 = (fileSave w cfg f₂ body).1 ∧
    (fileSave w cfg f₁ body).2.1 = (fileSave w cfg f₂ body).2.1 ∧
    HintEquiv (fileSave w cfg f₁ body).2.2 (fileSave w cfg f₂ body).2.2 :=
  entry_congr h (renderFileRaw_congr h cfg body) fun nf np => fileSaveFrom w nf (misuse np (.group fileInfo body))

/-- `Statement.RenderWithFile` / `Group.RenderWithFile` -/
theorem fragRender_congr {f₁ f₂ : FileS} (h : HintEquiv f₁ f₂) (w : World) (cfg : Cfg) (c : Code) :
    (fragRender w cfg f₁ c).1 = (fragRender w cfg f₂ c).1 ∧
    (fragRender w cfg f₁ c).2.1 = (fragRender w cfg f₂ c).2.1 ∧
    HintEquiv (fragRender w cfg f₁ c).2.2 (fragRender w cfg f₂ c).2.2 :=
  entry_congr h (renderS_sim (hintEquiv_sim cfg) c none h) fun _ np => fileRenderFrom w false (misuse np c)

/-- the order in which `ImportNames(m)` iterates its map argument (distinct keys) is invisible:
    the rendered text, the result and the effect trace of `File.Render` are the same -/
theorem importNames_perm_render (w : World) (cfg : Cfg) (f : FileS) {m₁ m₂ : List (Str × Str)}
    (h : m₁.Perm m₂) (nd : (m₁.map (·.1)).Nodup) (body : List Code) :
    (renderFileRaw cfg (Registry.importNames f m₁) body).1
        = (renderFileRaw cfg (Registry.importNames f m₂) body).1 ∧
    (fileRender w cfg (Registry.importNames f m₁) body).1
        = (fileRender w cfg (Registry.importNames f m₂) body).1 ∧
    (fileRender w cfg (Registry.importNames f m₁) body).2.1
        = (fileRender w cfg (Registry.importNames f m₂) body).2.1 :=
  have e := importNames_hintEquiv f h nd
  ⟨(renderFileRaw_congr e cfg body).1, (fileRender_congr e w cfg body).1,
   (fileRender_congr e w cfg body).2.1⟩

def RelS (r₁ r₂ : Str × FileS) : Prop := r₁.1 = r₂.1 ∧ HintEquiv r₁.2 r₂.2

def EntryOK (e : DEntry FileS) : Prop :=
  ∀ f₁ f₂, HintEquiv f₁ f₂ → RelS (e.kR f₁) (e.kR f₂) ∧ RelS (e.vR f₁) (e.vR f₂)

theorem renderItemsS_congr (cfg : Cfg) : ∀ (cs : List Code) (g : GInfo) (first : Bool) (f₁ f₂ : FileS),
    HintEquiv f₁ f₂ →
      (renderItemsS cfg g first f₁ cs).1 = (renderItemsS cfg g first f₂ cs).1 ∧
      (renderItemsS cfg g first f₁ cs).2.1 = (renderItemsS cfg g first f₂ cs).2.1 ∧
      HintEquiv (renderItemsS cfg g first f₁ cs).2.2 (renderItemsS cfg g first f₂ cs).2.2 :=
  fun cs g first _ _ h => renderItemsS_sim (hintEquiv_sim cfg) cs g first h

theorem renderStmtS_congr (cfg : Cfg) : ∀ (cs : List Code) (first : Bool) (prev : Option Code) (f₁ f₂ : FileS),
    HintEquiv f₁ f₂ → RelS (renderStmtS cfg first prev f₁ cs) (renderStmtS cfg first prev f₂ cs) :=
  fun cs first prev _ _ h => renderStmtS_sim (hintEquiv_sim cfg) cs first prev h

theorem dictEntriesS_ok (cfg : Cfg) : ∀ (ps : List (Code × Code)), ∀ e ∈ dictEntriesS cfg ps, EntryOK e :=
  dictEntriesS_sim (hintEquiv_sim cfg)

end PermLemmas
