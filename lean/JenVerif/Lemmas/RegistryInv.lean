import JenVerif.Lemmas.NameChoice
import JenVerif.Lemmas.AList
/-
  The import registry of `JenVerif/Registry.lean` (jen/file.go) keeps names unique and legal: the
  invariant `Inv`, preserved by `register`, `anon` and the hint setters.  `register` is read through
  one case analysis (`register_cases`: the path is local, or registered, or `newDef` is stored under
  it).  The names themselves (the guessed alias, the uniquifier) are in `Lemmas/NameChoice`.
-/

namespace RegistryInv
open Registry

theorem mem_insert_self {β} (m : List (Str × β)) (k : Str) (v : β) :
    (k, v) ∈ AList.insert m k v := AList.mem_insert_self m k v

/-- a name that takes part in Go's package-name scope: not absent, not `_`, not `.` -/
def realName (n : Str) : Bool := n != [] && n != b!"_" && n != b!"."

theorem realName_iff (n : Str) : realName n = true ↔ n ≠ [] ∧ n ≠ b!"_" ∧ n ≠ b!"." := by
  simp [realName, and_assoc]

/-- the registry invariant (DESIGN T-I) -/
structure Inv (cfg : Cfg) (f : FileS) : Prop where
  /-- (1) the map has one entry per path -/
  keysDistinct : (f.imports.map (·.1)).Nodup
  /-- (2) distinct paths never share a real name -/
  namesUnique : ∀ p q d e, (p, d) ∈ f.imports → (q, e) ∈ f.imports →
    realName d.name = true → d.name = e.name → p = q
  /-- (3) every real name is a Go identifier and not reserved (the pseudo-package `"C"` is
      stored under the fixed name `C` without consulting `reserved`) -/
  namesLegal : ∀ p d, (p, d) ∈ f.imports → realName d.name = true →
    isIdent d.name = true ∧ (d.name ∉ cfg.reserved ∨ p = b!"C")
  /-- no entry with the empty name is ever stored -/
  noEmpty : ∀ p d, (p, d) ∈ f.imports → d.name ≠ []
  /-- (4) `"C"`, if present, is `("C", false)` or the Anon entry -/
  cEntry : ∀ d, (b!"C", d) ∈ f.imports → d = ⟨b!"C", false⟩ ∨ d = ⟨b!"_", true⟩

/-- the hint guard: hint names are empty (= no hint), `.` (aliases only) or ASCII identifiers
    other than `_`; the prefix is empty or an identifier -/
def HintsOk (f : FileS) : Prop :=
  (∀ p h, (p, h) ∈ f.hints →
      h.name = [] ∨ (h.name = b!"." ∧ h.alias = true) ∨ (isIdent h.name = true ∧ h.name ≠ b!"_")) ∧
  (f.pfx = [] ∨ isIdent f.pfx = true)

/-- the regenerated table only holds identifiers other than `_` -/
def StdOk (cfg : Cfg) : Prop :=
  ∀ p n, (p, n) ∈ cfg.stdHints → n = [] ∨ (isIdent n = true ∧ n ≠ b!"_")

/-- guard for registering the pseudo-package `"C"`: no *other* path already carries the name `C`
    (`register` stores `("C", false)` for `"C"` without calling `isValidAlias`) -/
def CGuard (f : FileS) (p : Str) : Prop :=
  p = b!"C" → ∀ q e, (q, e) ∈ f.imports → e.name = b!"C" → q = b!"C"

theorem inv_empty (cfg : Cfg) : Inv cfg {} := by
  constructor <;> simp

theorem inv_congr {cfg : Cfg} {f g : FileS} (h : g.imports = f.imports) (hI : Inv cfg f) :
    Inv cfg g :=
  ⟨h ▸ hI.1, h ▸ hI.2, h ▸ hI.3, h ▸ hI.4, h ▸ hI.5⟩

open AList in
theorem inv_insert {cfg : Cfg} {f : FileS} (hI : Inv cfg f) (p : Str) (d : Def)
    (hne : d.name ≠ [])
    (hfresh : realName d.name = true → ∀ q e, (q, e) ∈ f.imports → e.name = d.name → q = p)
    (hlegal : realName d.name = true →
      isIdent d.name = true ∧ (d.name ∉ cfg.reserved ∨ p = b!"C"))
    (hC : p = b!"C" → d = ⟨b!"C", false⟩ ∨ d = ⟨b!"_", true⟩) :
    Inv cfg { f with imports := AList.insert f.imports p d } := by
  refine ⟨keys_insert_nodup _ _ _ hI.keysDistinct, ?_, forall_mem_insert hI.namesLegal hlegal,
    forall_mem_insert hI.noEmpty hne, fun d' h => forall_mem_insert (P := fun q e => q = b!"C" → _)
      (fun q e h e' => hI.cEntry e (e' ▸ h)) hC _ _ h rfl⟩
  intro p' q' d' e' h1 h2 hr hde
  rcases mem_insert h1 with e1 | e1 <;> rcases mem_insert h2 with e2 | e2
  · cases e1; cases e2; rfl
  · cases e1; exact (hfresh hr q' e' e2 hde.symm).symm
  · cases e2; exact hfresh (hde ▸ hr) p' d' e1 hde
  · exact hI.namesUnique p' q' d' e' e1 e2 hr hde

theorem lookupImp_mem {f : FileS} {p : Str} (h : (lookupImp f p).name ≠ []) :
    (p, lookupImp f p) ∈ f.imports := AList.getD_mem (·.name ≠ []) (· rfl) h

theorem lookupHint_mem {f : FileS} {p : Str} (h : (lookupHint f p).name ≠ []) :
    (p, lookupHint f p) ∈ f.hints := AList.getD_mem (·.name ≠ []) (· rfl) h

theorem stdHint_mem {cfg : Cfg} {p : Str} (h : stdHint cfg p ≠ []) :
    (p, stdHint cfg p) ∈ cfg.stdHints := AList.getD_mem (· ≠ []) (· rfl) h

theorem isReg_iff (f : FileS) (p : Str) :
    isReg f p = true ↔ (lookupImp f p).name ≠ [] ∧ (lookupImp f p).name ≠ b!"_" := by
  simp [isReg]

theorem lookupImp_insert_self (f : FileS) (p : Str) (d : Def) :
    lookupImp { f with imports := AList.insert f.imports p d } p = d := by
  simp [lookupImp, AList.lookup_insert_self]

theorem lookupImp_insert_ne (f : FileS) {p q : Str} (d : Def) (h : q ≠ p) :
    lookupImp { f with imports := AList.insert f.imports p d } q = lookupImp f q := by
  simp [lookupImp, AList.lookup_insert_ne _ _ h]

theorem chooseBase_cases (cfg : Cfg) (f : FileS) (p : Str) :
    ((lookupHint f p).name ≠ [] ∧
      chooseBase cfg f p = ((lookupHint f p).name, (lookupHint f p).alias)) ∨
    ((lookupHint f p).name = [] ∧ stdHint cfg p ≠ [] ∧ chooseBase cfg f p = (stdHint cfg p, false)) ∨
    ((lookupHint f p).name = [] ∧ stdHint cfg p = [] ∧
      chooseBase cfg f p = (guessAlias cfg.toLower p, true)) := by
  by_cases hu : (lookupHint f p).name = [] <;> by_cases hs : stdHint cfg p = [] <;>
    simp [chooseBase, hu, hs]

theorem chooseBase_ind {cfg : Cfg} {f : FileS} {p : Str} {P : Str → Bool → Prop}
    (hint : ∀ h, (p, h) ∈ f.hints → h.name ≠ [] → P h.name h.alias)
    (std : ∀ n, (p, n) ∈ cfg.stdHints → n ≠ [] → P n false)
    (guess : P (guessAlias cfg.toLower p) true) :
    P (chooseBase cfg f p).1 (chooseBase cfg f p).2 := by
  rcases chooseBase_cases cfg f p with ⟨h, e⟩ | ⟨_, h, e⟩ | ⟨_, _, e⟩ <;> rw [e]
  · exact hint _ (lookupHint_mem h) h
  · exact std _ (stdHint_mem h) h
  · exact guess

theorem lowerIdent_ne {s : Str} (h : isLowerIdent s = true) {t : Str} (ht : isLowerIdent t = false) :
    s ≠ t := fun e => by rw [e, ht] at h; cases h

theorem chooseBase_ok {cfg : Cfg} {f : FileS} (hH : HintsOk f) (hS : StdOk cfg) (p : Str) :
    ((chooseBase cfg f p).1 = b!"." ∧ (chooseBase cfg f p).2 = true) ∨
      (isIdent (chooseBase cfg f p).1 = true ∧ (chooseBase cfg f p).1 ≠ b!"_") :=
  chooseBase_ind (P := fun n a => (n = b!"." ∧ a = true) ∨ (isIdent n = true ∧ n ≠ b!"_"))
    (fun h hm hn => (hH.1 p h hm).resolve_left hn)
    (fun n hm hn => .inr ((hS p n hm).resolve_left hn))
    (.inr ⟨guessAlias_ident _ _, lowerIdent_ne (guessAlias_legal _ _) (by decide)⟩)

theorem chooseBase_ne_nil (cfg : Cfg) (f : FileS) (p : Str) : (chooseBase cfg f p).1 ≠ [] :=
  chooseBase_ind (P := fun n _ => n ≠ []) (fun _ _ h => h) (fun _ _ h => h)
    (isIdent_ne_nil (guessAlias_ident _ _))

theorem chooseDef_eq (cfg : Cfg) (f : FileS) (p : Str) :
    chooseDef cfg f p =
      ⟨pcand f (chooseBase cfg f p).1 (chooseBase cfg f p).2
          (uniqLoop cfg f (chooseBase cfg f p).1 (chooseBase cfg f p).2 (uniqFuel cfg f) 0),
        (chooseBase cfg f p).2 ||
          uniqLoop cfg f (chooseBase cfg f p).1 (chooseBase cfg f p).2 (uniqFuel cfg f) 0 != 0⟩ :=
  rfl

theorem chooseDef_valid (cfg : Cfg) (f : FileS) (p : Str) :
    isValidAlias cfg f (chooseDef cfg f p).name = true := by
  have h := (uniqLoop_spec cfg f (chooseBase cfg f p).1 (chooseBase cfg f p).2).1
  rw [acceptable_eq, Bool.and_eq_true] at h
  exact h.2

theorem chooseDef_of_dot {cfg : Cfg} {f : FileS} {p : Str} (h : chooseBase cfg f p = (b!".", true)) :
    chooseDef cfg f p = ⟨b!".", true⟩ := by
  have h0 : acceptable cfg f b!"." true 0 = true := by
    rw [acceptable_eq, pcand, candidate_zero, prefixed_dot]; rfl
  rw [chooseDef_eq, h, uniqLoop_zero h0, pcand, candidate_zero, prefixed_dot]; rfl

/-- an entry written without alias is the candidate itself: nothing was appended or prefixed -/
theorem chooseDef_unaliased {cfg : Cfg} {f : FileS} {p : Str} (h : (chooseDef cfg f p).alias = false) :
    chooseDef cfg f p = ⟨(chooseBase cfg f p).1, false⟩ ∧ (chooseBase cfg f p).2 = false := by
  rw [chooseDef_eq] at h ⊢
  simp only [Bool.or_eq_false_iff, bne_eq_false_iff_eq] at h
  rw [h.2, h.1, pcand_false_zero]
  exact ⟨rfl, rfl⟩

/-- a name that differs from the hint / table / guess is always an alias -/
theorem renamed_is_aliased (cfg : Cfg) (f : FileS) (p : Str)
    (h : (chooseDef cfg f p).name ≠ (chooseBase cfg f p).1) : (chooseDef cfg f p).alias = true := by
  cases ha : (chooseDef cfg f p).alias with
  | true => rfl
  | false => exact absurd (congrArg Def.name (chooseDef_unaliased ha).1) h

/-- when no alias is written the name is the user's `ImportName` or the table's entry, never a
    guess (C03 and C18 both state this) -/
theorem unaliased_is_real_name (cfg : Cfg) (f : FileS) (p : Str) (h : (chooseDef cfg f p).alias = false) :
    ((lookupHint f p).name ≠ [] ∧ (lookupHint f p).alias = false ∧
      (chooseDef cfg f p).name = (lookupHint f p).name) ∨
    ((lookupHint f p).name = [] ∧ stdHint cfg p ≠ [] ∧ (chooseDef cfg f p).name = stdHint cfg p) := by
  obtain ⟨e, hb⟩ := chooseDef_unaliased h
  rw [e]
  rcases chooseBase_cases cfg f p with ⟨hu, eb⟩ | ⟨hu, hs, eb⟩ | ⟨_, _, eb⟩ <;> rw [eb] at hb ⊢
  · exact .inl ⟨hu, hb, rfl⟩
  · exact .inr ⟨hu, hs, rfl⟩
  · cases hb

theorem chooseDef_name_ok {cfg : Cfg} {f : FileS} (hH : HintsOk f) (hS : StdOk cfg) (p : Str) :
    (chooseDef cfg f p).name = b!"." ∨
      (isIdent (chooseDef cfg f p).name = true ∧ (chooseDef cfg f p).name ≠ b!"_") := by
  rcases chooseBase_ok hH hS p with h | ⟨hn, hu⟩
  · exact .inl (by rw [chooseDef_of_dot (Prod.ext h.1 h.2)])
  · exact .inr ⟨pcand_ident hH.2 hn _ _, fun e => hu (pcand_len_one (isIdent_ne_nil hn) rfl e)⟩

theorem chooseDef_ne_nil (cfg : Cfg) (f : FileS) (p : Str) : (chooseDef cfg f p).name ≠ [] :=
  pcand_ne_nil f (chooseBase_ne_nil cfg f p) _ _

/-- what `register` stores for a path that is neither local nor registered -/
def newDef (cfg : Cfg) (f : FileS) (p : Str) : Def :=
  if p == b!"C" then ⟨b!"C", false⟩ else chooseDef cfg f p

theorem newDef_C (cfg : Cfg) (f : FileS) : newDef cfg f b!"C" = ⟨b!"C", false⟩ := rfl

theorem newDef_of_ne_C (cfg : Cfg) (f : FileS) {p : Str} (h : p ≠ b!"C") :
    newDef cfg f p = chooseDef cfg f p := by simp [newDef, h]

theorem newDef_real {cfg : Cfg} {f : FileS} (hH : HintsOk f) (hS : StdOk cfg) (p : Str) :
    (newDef cfg f p).name ≠ [] ∧ (newDef cfg f p).name ≠ b!"_" := by
  unfold newDef; split
  · exact ⟨by simp, by decide⟩
  · exact ⟨chooseDef_ne_nil cfg f p,
      (chooseDef_name_ok hH hS p).elim (fun h e => by rw [h] at e; cases e) (·.2)⟩

theorem register_local {cfg : Cfg} {f : FileS} {p : Str} (h : isLocal f p = true) :
    register cfg f p = ([], f) := by
  simp [register, h]

theorem register_reg {cfg : Cfg} {f : FileS} {p : Str} (h1 : isLocal f p = false)
    (h2 : isReg f p = true) : register cfg f p = ((lookupImp f p).name, f) := by
  simp [register, h1, h2]

theorem register_fresh {cfg : Cfg} {f : FileS} {p : Str} (h1 : isLocal f p = false)
    (h2 : isReg f p = false) :
    register cfg f p =
      ((newDef cfg f p).name, { f with imports := AList.insert f.imports p (newDef cfg f p) }) := by
  unfold register newDef
  rw [h1, h2]
  -- the two decided tests reduce away; the test for `"C"` stands on both sides
  show (if (p == b!"C") = true then _ else _) = _
  split <;> rfl

theorem register_cases (cfg : Cfg) (f : FileS) (p : Str) :
    (isLocal f p = true ∧ register cfg f p = ([], f)) ∨
    (isLocal f p = false ∧ isReg f p = true ∧ register cfg f p = ((lookupImp f p).name, f)) ∨
    (isLocal f p = false ∧ isReg f p = false ∧ register cfg f p =
      ((newDef cfg f p).name, { f with imports := AList.insert f.imports p (newDef cfg f p) })) := by
  cases h1 : isLocal f p
  · cases h2 : isReg f p
    · exact .inr (.inr ⟨rfl, rfl, register_fresh h1 h2⟩)
    · exact .inr (.inl ⟨rfl, rfl, register_reg h1 h2⟩)
  · exact .inl ⟨rfl, register_local h1⟩

theorem register_new {cfg : Cfg} {f : FileS} {p : Str} (h1 : isLocal f p = false)
    (h2 : isReg f p = false) (h3 : p ≠ b!"C") :
    register cfg f p =
      ((chooseDef cfg f p).name,
        { f with imports := AList.insert f.imports p (chooseDef cfg f p) }) := by
  rw [register_fresh h1 h2, newDef_of_ne_C cfg f h3]

theorem register_C_new {cfg : Cfg} {f : FileS} (h1 : isLocal f b!"C" = false)
    (h2 : isReg f b!"C" = false) :
    register cfg f b!"C" =
      (b!"C", { f with imports := AList.insert f.imports b!"C" ⟨b!"C", false⟩ }) :=
  register_fresh h1 h2

theorem register_writes (cfg : Cfg) (f : FileS) (p : Str) :
    (register cfg f p).2 = { f with imports := (register cfg f p).2.imports } := by
  rcases register_cases cfg f p with ⟨_, e⟩ | ⟨_, _, e⟩ | ⟨_, _, e⟩ <;> rw [e]

theorem register_frame (cfg : Cfg) (f : FileS) (p : Str) :
    (register cfg f p).2.hints = f.hints ∧ (register cfg f p).2.pfx = f.pfx ∧
    (register cfg f p).2.path = f.path ∧ (register cfg f p).2.name = f.name ∧
    (register cfg f p).2.comments = f.comments ∧ (register cfg f p).2.headers = f.headers ∧
    (register cfg f p).2.cgo = f.cgo ∧ (register cfg f p).2.noFormat = f.noFormat ∧
    (register cfg f p).2.canonical = f.canonical := by
  rw [register_writes]
  exact ⟨rfl, rfl, rfl, rfl, rfl, rfl, rfl, rfl, rfl⟩

theorem register_hints (cfg : Cfg) (f : FileS) (p : Str) :
    (register cfg f p).2.hints = f.hints := (register_frame cfg f p).1

theorem register_isLocal (cfg : Cfg) (f : FileS) (p q : Str) :
    isLocal (register cfg f p).2 q = isLocal f q := by
  rw [register_writes]; rfl

/-- **T-I, preservation by `register`.**  `CGuard` is only needed for `p = "C"`. -/
theorem register_inv {cfg : Cfg} {f : FileS} (hI : Inv cfg f) (hH : HintsOk f) (hS : StdOk cfg)
    (p : Str) (hC : CGuard f p) : Inv cfg (register cfg f p).2 := by
  rcases register_cases cfg f p with ⟨_, e⟩ | ⟨_, _, e⟩ | ⟨_, _, e⟩ <;> rw [e]
  · exact hI
  · exact hI
  by_cases h3 : p = b!"C"
  · subst h3
    rw [newDef_C]
    exact inv_insert hI _ _ (by simp) (fun _ q e he hn => hC rfl q e he hn)
      (fun _ => ⟨by decide, .inr rfl⟩) (fun _ => .inl rfl)
  · rw [newDef_of_ne_C cfg f h3]
    -- the name passed `isValidAlias`: it is `.` (not a real name) or unreserved and unused
    have hv := (isValidAlias_iff cfg f _).mp (chooseDef_valid cfg f p)
    refine inv_insert hI _ _ (chooseDef_ne_nil cfg f p) (fun hr q e he hn => ?_) (fun hr => ?_)
      (fun e => absurd e h3)
    · exact absurd hn ((hv.resolve_left ((realName_iff _).mp hr).2.2).2 q e he)
    · have hdot := ((realName_iff _).mp hr).2.2
      exact ⟨((chooseDef_name_ok hH hS p).resolve_left hdot).1, .inl (hv.resolve_left hdot).1⟩

theorem register_inv_of_ne_C {cfg : Cfg} {f : FileS} (hI : Inv cfg f) (hH : HintsOk f)
    (hS : StdOk cfg) {p : Str} (hp : p ≠ b!"C") : Inv cfg (register cfg f p).2 :=
  register_inv hI hH hS p (fun e => absurd e hp)

/-- the chosen name is never `""` or `"_"`, and it is the stored one -/
theorem register_returns_stored {cfg : Cfg} {f : FileS} (hH : HintsOk f) (hS : StdOk cfg)
    {p : Str} (h1 : isLocal f p = false) :
    (lookupImp (register cfg f p).2 p).name = (register cfg f p).1 ∧
      (register cfg f p).1 ≠ [] ∧ (register cfg f p).1 ≠ b!"_" := by
  rcases register_cases cfg f p with ⟨h, _⟩ | ⟨_, h2, e⟩ | ⟨_, _, e⟩
  · rw [h] at h1; cases h1
  · rw [e]; exact ⟨rfl, (isReg_iff f p).mp h2⟩
  · rw [e]; exact ⟨congrArg Def.name (lookupImp_insert_self f _ _), newDef_real hH hS p⟩

theorem register_isReg {cfg : Cfg} {f : FileS} (hH : HintsOk f) (hS : StdOk cfg)
    {p : Str} (h1 : isLocal f p = false) : isReg (register cfg f p).2 p = true := by
  obtain ⟨a, b, c⟩ := register_returns_stored (cfg := cfg) hH hS h1
  rw [isReg_iff, a]
  exact ⟨b, c⟩

theorem register_other {cfg : Cfg} {f : FileS} {p q : Str} (hqp : q ≠ p) :
    lookupImp (register cfg f p).2 q = lookupImp f q := by
  rcases register_cases cfg f p with ⟨_, e⟩ | ⟨_, _, e⟩ | ⟨_, _, e⟩ <;> rw [e]
  exact lookupImp_insert_ne f _ hqp

theorem register_keeps {cfg : Cfg} {f : FileS} {p q : Str} (hq : isReg f q = true) :
    lookupImp (register cfg f p).2 q = lookupImp f q := by
  rcases register_cases cfg f p with ⟨_, e⟩ | ⟨_, _, e⟩ | ⟨_, h2, e⟩ <;> rw [e]
  exact lookupImp_insert_ne f _ (fun e => by rw [e, h2] at hq; cases hq)

theorem register_keeps_isReg {cfg : Cfg} {f : FileS} {p q : Str} (hq : isReg f q = true) :
    isReg (register cfg f p).2 q = true := by
  unfold isReg at hq ⊢
  rw [register_keeps hq]; exact hq

theorem register_idem {cfg : Cfg} {f : FileS} {p : Str} (h2 : isReg f p = true) :
    register cfg f p = (if isLocal f p then [] else (lookupImp f p).name, f) := by
  cases h1 : isLocal f p with
  | true => rw [register_local h1]; rfl
  | false => rw [register_reg h1 h2]; rfl

/-- C19: `"C"` is never renamed.  Without any hypothesis when it is not yet registered … -/
theorem register_C_fresh {cfg : Cfg} {f : FileS} (h1 : isLocal f b!"C" = false)
    (h2 : isReg f b!"C" = false) :
    (register cfg f b!"C").1 = b!"C" ∧
      lookupImp (register cfg f b!"C").2 b!"C" = ⟨b!"C", false⟩ := by
  rw [register_C_new h1 h2]
  exact ⟨rfl, lookupImp_insert_self f _ _⟩

/-- … and under the invariant in every state (a registered `"C"` entry can only be `("C",false)`) -/
theorem register_C {cfg : Cfg} {f : FileS} (hI : Inv cfg f) (h1 : isLocal f b!"C" = false) :
    (register cfg f b!"C").1 = b!"C" ∧
      lookupImp (register cfg f b!"C").2 b!"C" = ⟨b!"C", false⟩ := by
  cases h2 : isReg f b!"C" with
  | false => exact register_C_fresh h1 h2
  | true =>
    rw [register_reg h1 h2]
    have hr := (isReg_iff f _).mp h2
    rcases hI.cEntry _ (lookupImp_mem hr.1) with e | e
    · rw [e]; exact ⟨rfl, rfl⟩
    · rw [e] at hr; exact absurd rfl hr.2

theorem anon_lookup (f : FileS) (p : Str) : lookupImp (anon f p) p = ⟨b!"_", true⟩ :=
  lookupImp_insert_self f p _

theorem anon_other (f : FileS) {p q : Str} (h : q ≠ p) : lookupImp (anon f p) q = lookupImp f q :=
  lookupImp_insert_ne f _ h

/-- the Anon entry `_` is not a real name, so nothing is asked of it -/
theorem anon_inv {cfg : Cfg} {f : FileS} (hI : Inv cfg f) (p : Str) : Inv cfg (anon f p) :=
  inv_insert hI p _ (by simp) (fun h => absurd h (by decide)) (fun h => absurd h (by decide))
    fun _ => .inr rfl

theorem importName_inv {cfg : Cfg} {f : FileS} (hI : Inv cfg f) (p n : Str) :
    Inv cfg (importName f p n) := inv_congr (f := f) rfl hI

theorem importAlias_inv {cfg : Cfg} {f : FileS} (hI : Inv cfg f) (p n : Str) :
    Inv cfg (importAlias f p n) := inv_congr (f := f) rfl hI

theorem importNames_ind {P : FileS → Prop} {m : List (Str × Str)}
    (step : ∀ f e, e ∈ m → P f → P (importName f e.1 e.2)) {f : FileS} (h : P f) :
    P (importNames f m) := by
  unfold importNames
  induction m generalizing f with
  | nil => exact h
  | cons e m ih =>
    exact ih (fun f e' he' => step f e' (List.mem_cons_of_mem _ he')) (step f e List.mem_cons_self h)

theorem importNames_writes (f : FileS) (m : List (Str × Str)) :
    importNames f m = { f with hints := (importNames f m).hints } :=
  importNames_ind (P := fun g => g = { f with hints := g.hints }) (fun _ _ _ h => by rw [h]; rfl) rfl

theorem importNames_imports (m : List (Str × Str)) (f : FileS) :
    (importNames f m).imports = f.imports ∧ (importNames f m).pfx = f.pfx := by
  rw [importNames_writes]
  exact ⟨rfl, rfl⟩

theorem importNames_inv {cfg : Cfg} {f : FileS} (hI : Inv cfg f) (m : List (Str × Str)) :
    Inv cfg (importNames f m) := inv_congr (importNames_imports m f).1 hI

theorem hintsOk_insert {f : FileS} (hH : HintsOk f) (p : Str) (d : Def)
    (hd : d.name = [] ∨ (d.name = b!"." ∧ d.alias = true) ∨ (isIdent d.name = true ∧ d.name ≠ b!"_")) :
    HintsOk { f with hints := AList.insert f.hints p d } :=
  ⟨AList.forall_mem_insert hH.1 hd, hH.2⟩

theorem importName_hintsOk {f : FileS} (hH : HintsOk f) (p : Str) {n : Str}
    (hn : n = [] ∨ (isIdent n = true ∧ n ≠ b!"_")) : HintsOk (importName f p n) :=
  hintsOk_insert hH p _ (hn.imp_right .inr)

theorem importAlias_hintsOk {f : FileS} (hH : HintsOk f) (p : Str) {n : Str}
    (hn : (n = [] ∨ (isIdent n = true ∧ n ≠ b!"_")) ∨ n = b!".") : HintsOk (importAlias f p n) :=
  hintsOk_insert hH p _ (by
    rcases hn with (h | h) | h
    · exact .inl h
    · exact .inr (.inr h)
    · exact .inr (.inl ⟨h, rfl⟩))

theorem importNames_hintsOk (m : List (Str × Str)) {f : FileS} (hH : HintsOk f)
    (hm : ∀ e, e ∈ m → e.2 = [] ∨ (isIdent e.2 = true ∧ e.2 ≠ b!"_")) : HintsOk (importNames f m) :=
  importNames_ind (P := HintsOk) (fun _ e he h => importName_hintsOk h e.1 (hm e he)) hH

theorem hintsOk_congr {f g : FileS} (h1 : g.hints = f.hints) (h2 : g.pfx = f.pfx)
    (hH : HintsOk f) : HintsOk g := by
  unfold HintsOk at *
  rw [h1, h2]; exact hH

theorem register_hintsOk {cfg : Cfg} {f : FileS} (hH : HintsOk f) (p : Str) :
    HintsOk (register cfg f p).2 :=
  hintsOk_congr (register_frame cfg f p).1 (register_frame cfg f p).2.1 hH

theorem anon_hintsOk {f : FileS} (hH : HintsOk f) (p : Str) : HintsOk (anon f p) :=
  hintsOk_congr rfl rfl hH

/-! ### the name `C`

  `register` stores `("C", false)` for the path `"C"` without calling `isValidAlias`.  So if
  another path was registered under the *name* `C` before (only possible through a user hint
  `ImportName(q, "C")`/`ImportAlias(q, "C")` or a table entry `C`), registering `"C"` afterwards
  yields two packages named `C` — see the `example` at the end.  `CGuard` rules this out; it
  follows from `CFree`, which is itself an invariant when no hint and no table entry is `C`. -/

/-- no path other than `"C"` is registered under the name `C` -/
def CFree (f : FileS) : Prop := ∀ q e, (q, e) ∈ f.imports → e.name = b!"C" → q = b!"C"

/-- no hint and no table entry proposes the name `C` for a path other than `"C"` -/
def NoCHints (cfg : Cfg) (f : FileS) : Prop :=
  (∀ p h, (p, h) ∈ f.hints → p ≠ b!"C" → h.name ≠ b!"C") ∧
  (∀ p n, (p, n) ∈ cfg.stdHints → p ≠ b!"C" → n ≠ b!"C")

theorem cfree_cguard {f : FileS} (h : CFree f) (p : Str) : CGuard f p := fun _ => h

theorem cfree_empty : CFree {} := by intro q e h; simp at h

theorem cfree_of_reserved {cfg : Cfg} {f : FileS} (hI : Inv cfg f) (hr : b!"C" ∈ cfg.reserved) :
    CFree f := by
  intro q e he hn
  have hreal : realName e.name = true := by rw [hn]; decide
  rcases (hI.namesLegal q e he hreal).2 with h | h
  · rw [hn] at h; exact absurd hr h
  · exact h

theorem chooseDef_ne_C {cfg : Cfg} {f : FileS} (hN : NoCHints cfg f) {p : Str} (hp : p ≠ b!"C") :
    (chooseDef cfg f p).name ≠ b!"C" := fun h =>
  chooseBase_ind (P := fun n _ => n ≠ b!"C") (fun h hm _ => hN.1 p h hm hp) (fun n hm _ => hN.2 p n hm hp)
    (lowerIdent_ne (guessAlias_legal _ _) (by decide))
    (pcand_len_one (chooseBase_ne_nil cfg f p) rfl h)

theorem register_cfree {cfg : Cfg} {f : FileS} (hF : CFree f) (hN : NoCHints cfg f) (p : Str) :
    CFree (register cfg f p).2 := by
  rcases register_cases cfg f p with ⟨_, e⟩ | ⟨_, _, e⟩ | ⟨_, _, e⟩ <;> rw [e]
  · exact hF
  · exact hF
  exact AList.forall_mem_insert hF fun hn =>
    Classical.byContradiction fun h3 => chooseDef_ne_C hN h3 (newDef_of_ne_C cfg f h3 ▸ hn)

theorem anon_cfree {f : FileS} (hF : CFree f) (p : Str) : CFree (anon f p) :=
  AList.forall_mem_insert hF fun h => absurd h (by decide)

/-- the unconditional form of T-I: `Inv ∧ CFree` is preserved by every `register` -/
theorem register_inv_cfree {cfg : Cfg} {f : FileS} (hI : Inv cfg f) (hF : CFree f)
    (hH : HintsOk f) (hS : StdOk cfg) (hN : NoCHints cfg f) (p : Str) :
    Inv cfg (register cfg f p).2 ∧ CFree (register cfg f p).2 :=
  ⟨register_inv hI hH hS p (cfree_cguard hF p), register_cfree hF hN p⟩

theorem noCHints_register {cfg : Cfg} {f : FileS} (hN : NoCHints cfg f) (p : Str) :
    NoCHints cfg (register cfg f p).2 := by
  unfold NoCHints at *
  rw [register_hints]; exact hN

theorem noCHints_insert {cfg : Cfg} {f : FileS} (hN : NoCHints cfg f) (p : Str) (d : Def)
    (hn : p = b!"C" ∨ d.name ≠ b!"C") : NoCHints cfg { f with hints := AList.insert f.hints p d } :=
  ⟨AList.forall_mem_insert hN.1 hn.resolve_left, hN.2⟩

theorem importName_noCHints {cfg : Cfg} {f : FileS} (hN : NoCHints cfg f) (p : Str) {n : Str}
    (hn : p = b!"C" ∨ n ≠ b!"C") : NoCHints cfg (importName f p n) := noCHints_insert hN p _ hn

theorem importAlias_noCHints {cfg : Cfg} {f : FileS} (hN : NoCHints cfg f) (p : Str) {n : Str}
    (hn : p = b!"C" ∨ n ≠ b!"C") : NoCHints cfg (importAlias f p n) := noCHints_insert hN p _ hn

section Examples

def cfg0 : Cfg := ⟨id, fun _ => true, [b!"go", b!"err"], [(b!"fmt", b!"fmt")]⟩

/-- a file with package prefix `p` and the alias hint `go` (a keyword!) for `x.com/a` -/
def f0 : FileS := { path := b!"main", hints := [(b!"x.com/a", ⟨b!"go", true⟩)], pfx := b!"p" }

def f1 : FileS := (register cfg0 f0 b!"x.com/a").2
def f2 : FileS := (register cfg0 f1 b!"fmt").2
def f3 : FileS := (register cfg0 f2 b!"y.org/fmt/").2

theorem stdOk_cfg0 : StdOk cfg0 := by
  intro p n h
  simp only [cfg0, List.mem_singleton, Prod.mk.injEq] at h
  right; rw [h.2]; decide

theorem hintsOk_f0 : HintsOk f0 :=
  hintsOk_insert (f := { path := b!"main", pfx := b!"p" }) ⟨fun _ _ h => (nomatch h), .inr (by decide)⟩
    b!"x.com/a" ⟨b!"go", true⟩ (.inr (.inr (by decide)))

theorem noCHints_f0 : NoCHints cfg0 f0 :=
  noCHints_insert (f := { path := b!"main", pfx := b!"p" })
    ⟨fun _ _ h => (nomatch h), fun p n hm _ => by
      simp only [cfg0, List.mem_singleton, Prod.mk.injEq] at hm
      rw [hm.2]; decide⟩
    b!"x.com/a" ⟨b!"go", true⟩ (.inr (by decide))

/-- the keyword hint is renamed (`go1`), prefixed, and marked as an alias; the table name `fmt`
    is kept without alias; a second package guessed `fmt` becomes `p_fmt1` -/
example : f3.imports =
    [(b!"x.com/a", ⟨b!"p_go1", true⟩), (b!"fmt", ⟨b!"fmt", false⟩),
     (b!"y.org/fmt/", ⟨b!"p_fmt1", true⟩)] := by decide

theorem inv_f0 : Inv cfg0 f0 := inv_congr (f := {}) rfl (inv_empty cfg0)

example : Inv cfg0 f3 ∧ HintsOk f3 ∧ CFree f3 := by
  have h1 := register_inv_cfree inv_f0 (fun _ _ h => by simp [f0] at h) hintsOk_f0 stdOk_cfg0
    noCHints_f0 b!"x.com/a"
  have h2 := register_inv_cfree h1.1 h1.2 (register_hintsOk hintsOk_f0 _) stdOk_cfg0
    (noCHints_register noCHints_f0 _) b!"fmt"
  have h3 := register_inv_cfree h2.1 h2.2 (register_hintsOk (register_hintsOk hintsOk_f0 _) _)
    stdOk_cfg0 (noCHints_register (noCHints_register noCHints_f0 _) _) b!"y.org/fmt/"
  exact ⟨h3.1, register_hintsOk (register_hintsOk (register_hintsOk hintsOk_f0 _) _) _, h3.2⟩

/-- `CGuard` cannot be dropped: a hint `C` for another path, then a reference to `"C"`, gives
    two imports named `C`, because the `"C"` branch of `register` does not call `isValidAlias`.
    (`cfg0` does not reserve `C`.  jen/file.go's `isValidAlias` refuses the alias `C`; `Props.cfgOf`
    models that by reserving it, and then `CGuard` follows from `Inv`: `cfree_of_reserved`.) -/
def fC : FileS := { hints := [(b!"x/c", ⟨b!"C", false⟩)] }
def fC2 : FileS := (register cfg0 (register cfg0 fC b!"x/c").2 b!"C").2

theorem fC2_imports :
    fC2.imports = [(b!"x/c", ⟨b!"C", false⟩), (b!"C", ⟨b!"C", false⟩)] := by decide

example : HintsOk fC ∧ Inv cfg0 (register cfg0 fC b!"x/c").2 ∧ ¬ Inv cfg0 fC2 := by
  have hH : HintsOk fC :=
    hintsOk_insert (f := {}) ⟨fun _ _ h => (nomatch h), .inl rfl⟩ b!"x/c" ⟨b!"C", false⟩
      (.inr (.inr (by decide)))
  have hI : Inv cfg0 fC := inv_congr (f := {}) rfl (inv_empty cfg0)
  have hne : (b!"x/c" : Str) ≠ b!"C" := by decide
  refine ⟨hH, register_inv_of_ne_C hI hH stdOk_cfg0 hne, ?_⟩
  intro h
  have := h.namesUnique b!"x/c" b!"C" ⟨b!"C", false⟩ ⟨b!"C", false⟩
    (by rw [fC2_imports]; simp) (by rw [fC2_imports]; simp) (by decide) rfl
  revert this; decide

end Examples

#print axioms inv_empty
#print axioms register_inv
#print axioms register_inv_cfree
#print axioms register_returns_stored
#print axioms register_keeps
#print axioms register_frame
#print axioms register_C
#print axioms register_C_fresh
#print axioms renamed_is_aliased
#print axioms anon_inv
#print axioms importNames_inv
#print axioms importNames_hintsOk
#print axioms importAlias_hintsOk
#print axioms register_cfree

end RegistryInv
